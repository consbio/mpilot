/-
C01 (histories with edits) — commands added to the program between runs and reads.

`history_ok` (Props/C01Hist.lean) is about one fixed program.  Here the program grows along the history: besides `run()` and reads of a
result, a step may add a command through the programming interface (`Program.add_command`: refused when the result name is taken).  A consumer
attached after a run, a whole model built up step by step with runs in between - the claim is the same: at every point no command has
completed twice, the stored results of an earlier point are still stored unchanged, and every completed command's inputs completed before it.

Acyclicity is asked of the final program (`Ranked` for it): every earlier program is a part of it (`Ranked.shrink`).
Deleting a command (`del program.commands[name]`) is outside the model: only the driver performs it.
-/
import MPilot.Props.C01Hist
import MPilot.Lemmas.Load

namespace MPilot.C01

variable {Val : Type}

/-- every stored result belongs to a command of the program -/
def Known (p : Program) (st : St Val) : Prop := ∀ x ∈ names st, (p.find? x).isSome = true

section
variable (sem : Sem Val) (p : Program)

/-- whatever `Command.run` does, results are only ever stored for commands of the program -/
theorem runCmd_known : ∀ (fuel : Nat) (st : St Val) (n : String), Known p st → Known p (runCmd sem p fuel st n).1 := by
  intro fuel st n
  -- of the rules of `Command.run` only `done` stores anything, and it stores under a name `p.find?` has found
  refine runCmd_bigstep sem p (Q := fun st _ st' _ => Known p st → Known p st') (P := fun _ s _ s' _ => Known p s → Known p s')
    (nil := fun _ _ => id) (fail := fun _ _ _ _ _ _ _ => id) (cons := fun _ _ _ _ _ _ _ _ hq _ hp => hp ∘ hq) (memo := fun _ _ _ => id)
    (refuse := fun _ _ _ => id) (abort := fun _ _ _ _ _ _ _ _ => id) (done := ?_) fuel st n rfl
  intro st n c s2 vals v _ hc hp _ hk x hx
  rcases List.mem_append.mp (names_leave s2 n v ▸ hx) with hx | hx
  · exact hp hk x hx
  · simp [List.mem_singleton.mp hx, hc]

theorem run_known (st : St Val) (h : Known p st) : Known p (run sem p st).1 :=
  run_inv sem p (fun st n => runCmd_known sem p _ st n) st h

end

/-- `Program.add_command` as far as the run loop is concerned: refused when the result name is taken -/
def grow (p : Program) (c : PCmd) : Program :=
  if (p.find? c.resultName).isSome then p else { p with cmds := p.cmds ++ [c] }

theorem find?_grow (p : Program) (c : PCmd) (n : String) (k : PCmd) (h : p.find? n = some k) : (grow p c).find? n = some k := by
  unfold grow
  split
  · exact h
  · simp only [Program.find?] at h ⊢
    rw [List.find?_append, h]; rfl

/-- the model's `Program.add_command` (`addCommand`, which also refuses missing and undeclared arguments) adds exactly as `grow` does, or not at all -/
theorem addCommand_is_grow (p p' : Program) (decl : CmdDecl) (rn : String) (args : List Arg) (line : Option Nat)
    (h : addCommand p decl rn args line = .ok p') : p' = grow p ⟨rn, decl, args, line⟩ := by
  obtain ⟨⟨hfree, -⟩, rfl⟩ := (addCommand_eq_ok p p' decl rn args line).mp h
  simp [grow, hfree]

theorem length_grow (p : Program) (c : PCmd) : p.cmds.length ≤ (grow p c).cmds.length := by
  unfold grow; split <;> simp

theorem known_grow {p : Program} {st : St Val} (c : PCmd) (h : Known p st) : Known (grow p c) st := by
  intro x hx
  obtain ⟨k, hk⟩ := Option.isSome_iff_exists.mp (h x hx)
  rw [find?_grow p c x k hk]; rfl

/-- adding a command keeps the invariant: it speaks about stored results only, and their commands are found as before -/
theorem finv_grow {sem : Sem Val} {p : Program} {st : St Val} (c : PCmd) (h : FInv sem p st) (hk : Known p st) : FInv sem (grow p c) st := by
  refine ⟨h.nodup, h.fin, ?_⟩
  intro pre n post hn k hfind d hd
  obtain ⟨k0, hk0⟩ := Option.isSome_iff_exists.mp (hk n (by rw [hn]; simp))
  cases hfind.symm.trans (find?_grow p c n k0 hk0)
  exact h.ordered pre n post hn k hk0 d hd

/-- an acyclic program stays acyclic when a command is taken away from its end: every part of the final program is ranked by the final rank -/
theorem Ranked.shrink {sem : Sem Val} {p : Program} {r : String → Nat} (c : PCmd) (h : Ranked sem (grow p c) r) : Ranked sem p r :=
  fun n k hk d hd => h n k (find?_grow p c n k hk) d hd

/-- one step of a history with edits -/
inductive EOp
  | run
  | result (n : String)
  | add (c : PCmd)

structure EState (Val : Type) where
  prog : Program
  st : St Val

def estep (s : EState Val) (x : Sem Val × EOp) : EState Val :=
  match x.2 with
  | .run => { s with st := (run x.1 s.prog s.st).1 }
  | .result n => { s with st := (runCmd x.1 s.prog (s.prog.cmds.length + 1) s.st n).1 }
  | .add c => { s with prog := grow s.prog c }

def ehistory (p0 : Program) (ops : List (Sem Val × EOp)) : EState Val := ops.foldl estep { prog := p0, st := { memo := [], log := [] } }

variable (sem : Sem Val) (r : String → Nat)

theorem estep_any (s : EState Val) (x : Sem Val × EOp) (hx : x.1.pulls = sem.pulls) (hr : Ranked sem (estep s x).prog r)
    (hinv : FInv sem s.prog s.st ∧ Known s.prog s.st) :
    (FInv sem (estep s x).prog (estep s x).st ∧ Known (estep s x).prog (estep s x).st) ∧ ∃ m, (estep s x).st.memo = s.st.memo ++ m := by
  have run_or_read : ∀ {st' : St Val}, Reach x.1 s.prog (fun _ => True) s.st st' → Known s.prog st' →
      (FInv sem s.prog st' ∧ Known s.prog st') ∧ ∃ m, st'.memo = s.st.memo ++ m := fun h hk =>
    ⟨⟨(h.finv (hinv.1.congr hx)).congr hx.symm, hk⟩, h.grows.2.imp fun _ => And.left⟩
  obtain ⟨sem', op⟩ := x
  cases op with
  | run => exact run_or_read (run_reach (Ranked.congr hr hx) rfl).1 (run_known _ _ _ hinv.2)
  | result n =>
    exact run_or_read ((runCmd_reach (Ranked.congr hr hx) rfl).1.mono fun _ _ => trivial) (runCmd_known _ _ _ _ _ hinv.2)
  | add c => exact ⟨⟨finv_grow _ hinv.1 hinv.2, known_grow _ hinv.2⟩, [], by simp [estep]⟩

/-- **C01 over histories with edits.**  Start from any program; run it, read results, add commands through the programming interface, in any
order and any number of times, each run or read under its own behaviour of the bodies (same reads).  If the program reached at the end is acyclic
then, at the end - and hence at every point, since every prefix of a history is a history whose final program is a part of this one -
* the invariant holds for the final program: no command has completed twice, completed commands are exactly the stored ones in completion order,
  every completed command's inputs completed before it;
* every stored result belongs to a command of the program;
* what any earlier point of the history had stored is still stored, unchanged and in place. -/
theorem edit_history_ok (p0 : Program) (ops : List (Sem Val × EOp)) (hops : ∀ x ∈ ops, x.1.pulls = sem.pulls)
    (hr : Ranked sem (ehistory p0 ops).prog r) :
    FInv sem (ehistory p0 ops).prog (ehistory p0 ops).st ∧ (finishes (ehistory p0 ops).st.log).Nodup ∧
    Known (ehistory p0 ops).prog (ehistory p0 ops).st ∧
    ∀ k, ∃ m, (ehistory p0 ops).st.memo = (ehistory p0 (ops.take k)).st.memo ++ m := by
  obtain ⟨⟨hfin, hkn⟩, hk⟩ := foldl_inv estep (·.st.memo) (G := fun s => Ranked sem s.prog r) (I := fun s => FInv sem s.prog s.st ∧ Known s.prog s.st)
    (fun s x h => match x, h with | (_, .run), h => h | (_, .result _), h => h | (_, .add c), h => Ranked.shrink c h)
    ops (fun s x hx => estep_any sem r s x (hops x hx)) _ hr
    ⟨finv_init sem p0, fun x hx => by simp [names] at hx⟩
  exact ⟨hfin, hfin.fin ▸ hfin.nodup, hkn, hk⟩

/-! non-vacuity: the two-command model of C01Hist is run (the body of `a` fails), a command `z` that nobody reads is added, `b` is offered again
(refused: the name is taken), the model is run again with working bodies and `z` is read: the premises of `edit_history_ok` hold for this history -/
section
def exOps : List (Sem Nat × EOp) :=
  [(exSem true, .run), (exSem false, .add ⟨"z", exDecl, [], some 3⟩), (exSem false, .add ⟨"b", exDecl, [], some 4⟩), (exSem false, .run),
   (exSem false, .result "z")]

theorem exFinalProg : (ehistory exProg exOps).prog.cmds.map (·.resultName) = ["b", "a", "z"] := by decide

theorem exRankedFinal : Ranked (exSem true) (ehistory exProg exOps).prog exRank := .of_mem (by decide)

example : FInv (exSem true) (ehistory exProg exOps).prog (ehistory exProg exOps).st :=
  (edit_history_ok (exSem true) exRank exProg exOps (by intro x hx; simp [exOps] at hx; rcases hx with rfl | rfl | rfl | rfl | rfl <;> rfl) exRankedFinal).1
end

end MPilot.C01
