/-
C06 — FuzzyXOr and FuzzySelectedUnion cell by cell ("the mean of the k truest or falsest, and the EEMS exclusive-or formula").

`or_cell`, `and_cell`, `union_cell`, `weightedUnion_cell`, `not_cells` (Props/C06.lean) give the other five operators.
-/
import MPilot.Props.C06

namespace MPilot.C06

/-- **FuzzyXOr, cell by cell**: a cell is missing iff some input is missing there, and otherwise holds the EEMS exclusive-or (`xorCell`: from the two
greatest values of the ascending column), limited to [-1, 1] -/
theorem xor_cell (sqrt : Rat → Rat) (a : Arr) (t : List Arr) (r : Arr) (i : Nat)
    (h : exec sqrt .fuzzyXOr (a :: t) = .ok r) (hi : i < a.cells.length) :
    ∃ c, r.cells[i]? = some c ∧ c.mask = (column (a :: t) i).any (·.mask) ∧
      (c.mask = false → c.val = clampHiLo (-1) 1 (xorCell (sortRat ((column (a :: t) i).map (·.val)))).val) := by
  dsimp only [exec] at h
  obtain ⟨_, _, h⟩ := bind_ok h
  cases (ite_error_eq_ok.mp h).2
  exact (stackMap_cellAt a t xorCell xorCell_unmasked i hi).insure _ _

/-- **FuzzySelectedUnion, cell by cell** (admissible `k`: a whole number from 1 to the number of inputs) -/
theorem selectedUnion_cell (sqrt : Rat → Rat) (sel : String) (k : Num) (a : Arr) (t : List Arr) (r : Arr) (i : Nat)
    (h : exec sqrt (.fuzzySelectedUnion sel k) (a :: t) = .ok r) (hi : i < a.cells.length) :
    (sel = "Truest" ∨ sel = "Falsest") ∧ k.isInt = true ∧ 1 ≤ k.val ∧ k.val ≤ ((a :: t).length : Rat) ∧
    ∃ c, r.cells[i]? = some c ∧ c.mask = (column (a :: t) i).any (·.mask) ∧
      (c.mask = false → c.val = clampHiLo (-1) 1 (selCell (sel == "Truest") k.val.num.toNat (sortRat ((column (a :: t) i).map (·.val)))).val) := by
  dsimp only [exec] at h
  obtain ⟨_, _, h⟩ := bind_ok h
  -- the four admissibility guards, in the order the body checks them
  simp only [eMp, eRaw, ite_error_eq_ok] at h
  obtain ⟨hk, hsel, hint, hk1, h⟩ := h
  cases h
  refine ⟨?_, by simpa using hint, by simpa using hk1, by simpa using hk,
    (stackMap_cellAt a t _ (selCell_unmasked _ _) i hi).insure _ _⟩
  by_cases h1 : sel = "Truest"
  · exact Or.inl h1
  · exact Or.inr (by simpa [h1] using hsel)

/-- in ascending order the last value is the greatest of the column and the one before it the greatest of the others -/
theorem sorted_top_two (l s : List Rat) (hs : s = sortRat l) (h2 : 2 ≤ l.length) (t1 t2 : Rat)
    (ht1 : t1 = s.getD (s.length - 1) 0) (ht2 : t2 = s.getD (s.length - 2) 0) :
    t1 ∈ l ∧ t2 ∈ l ∧ t2 ≤ t1 ∧ (∀ x ∈ l, x ≤ t1) ∧ ∀ j, j < s.length - 2 → s.getD j 0 ≤ t2 := by
  subst hs
  have h2s : 2 ≤ (sortRat l).length := (sortRat_perm_self l).length_eq ▸ h2
  have hle := List.pairwise_iff_getElem.mp (sortRat_sorted l)
  have hget : ∀ j (hj : j < (sortRat l).length), (sortRat l).getD j 0 = (sortRat l)[j] := fun _ _ => (List.getElem_eq_getD 0).symm
  have h1 : (sortRat l).length - 1 < (sortRat l).length := by omega
  have h2' : (sortRat l).length - 2 < (sortRat l).length - 1 := by omega
  rw [hget _ h1] at ht1
  rw [hget _ (h2'.trans h1)] at ht2
  subst ht1 ht2
  refine ⟨sortRat_mem.mp (List.getElem_mem _), sortRat_mem.mp (List.getElem_mem _), hle _ _ _ _ h2', fun x hx => ?_, fun j hj => ?_⟩
  · obtain ⟨j, hj, rfl⟩ := List.getElem_of_mem (sortRat_mem.mpr hx)
    by_cases h : j = (sortRat l).length - 1
    · subst h; exact le_rfl
    · exact hle j _ _ _ (by omega)
  · rw [hget j ((hj.trans h2').trans h1)]
    exact hle j _ _ _ hj

/-- the `k` truest: the values left out are all ≤ every selected value; the `k` falsest: all ≥ -/
theorem sel_truest_spec (l : List Rat) (k : Nat) :
    let s := sortRat l
    (∀ x ∈ s.take (s.length - k), ∀ y ∈ s.drop (s.length - k), x ≤ y) ∧ (∀ x ∈ s.take k, ∀ y ∈ s.drop k, x ≤ y) :=
  ⟨fun _ hx _ hy => (sortRat_sorted l).rel_of_mem_take_of_mem_drop hx hy,
    fun _ hx _ hy => (sortRat_sorted l).rel_of_mem_take_of_mem_drop hx hy⟩

end MPilot.C06
