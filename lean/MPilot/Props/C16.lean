/-
C16 — EEMS 2.0 command files translate to equivalent MPilot programs.
-/
import MPilot.Model.Eems2
import MPilot.Lemmas.Lex
import MPilot.Generated.Eems2Table
import MPilot.Generated.Decls
import MPilot.Lemmas.List

namespace MPilot.C16
open MPilot.Generated

def csvNames : List String := csvDecls.map (·.name)
def netcdfNames : List String := netcdfDecls.map (·.name)

/-- EEMS 2.0 names whose target command does not exist in the libraries (known finding C16-F13-scorerange) -/
def knownMissing : List String := ["SCORERANGEBENEFIT", "SCORERANGECOST"]

/-- **every mapped EEMS 2.0 name resolves to an existing command** in both library sets — re-checked against the table and the
registry extracted from the source on every run.  The two ScoreRange rows are the listed known finding; they are excluded
here and their failure is proved below, so any *other* unmapped name breaks this obligation. -/
theorem table_total_except_known :
    ∀ kv ∈ eems2Table, kv.1 ∉ knownMissing → kv.2 ∈ csvNames ∧ kv.2 ∈ netcdfNames := by
  decide +kernel

/-- the known finding, as a theorem about the current tables: the ScoreRange targets exist in neither library set -/
theorem scorerange_targets_missing :
    ("SCORERANGEBENEFIT", "ScoreRangeBenefit") ∈ eems2Table ∧ "ScoreRangeBenefit" ∉ csvNames ∧ "ScoreRangeBenefit" ∉ netcdfNames ∧
    ("SCORERANGECOST", "ScoreRangeCost") ∈ eems2Table ∧ "ScoreRangeCost" ∉ csvNames ∧ "ScoreRangeCost" ∉ netcdfNames := by
  decide +kernel

/-- the table has 25 rows with pairwise different EEMS 2.0 names -/
theorem table_shape : eems2Table.length = 25 ∧ (eems2Table.map (·.1)).Nodup := by decide +kernel

/-- the MPilot command the rule maps an EEMS 2.0 command to, given the result name `s` the rule finds for it -/
def mapped (table : List (String × String)) (n : CNode) (s : String) : CNode :=
  { resultName := some s,
    command := match table.find? (·.1 == n.command) with | some (_, v) => v | none => n.command,
    args := n.args.filter (fun a => a.name != "NewFieldName" && a.name != "OutFileName"),
    line := n.line }

theorem convertNode_ok (table : List (String × String)) (n c : CNode) (h : convertNode table n = .ok c) :
    ∃ s, v2ResultName n = some (.str s) ∧ c = mapped table n s := by
  unfold convertNode at h
  split at h
  · rename_i s hs
    injection h with h; subst h
    exact ⟨s, hs, rfl⟩
  · cases h

theorem convertNode_error (table : List (String × String)) (n : CNode) (e : PErr) (h : convertNode table n = .error e) :
    e = .mp "ProgramError" (some n.line) ∧ ∀ s, v2ResultName n ≠ some (.str s) := by
  unfold convertNode at h
  split at h
  · cases h
  · rename_i hno
    injection h with h
    exact ⟨h.symm, fun s hs => hno s hs⟩

/-- **the translation rule**: the command is renamed through the table (names not in the table are kept), its result name is its own
result name or else the new field name or else the input field name, and the output-file / new-field arguments are dropped; the line is kept -/
theorem convertNode_spec (table : List (String × String)) (n c : CNode) (h : convertNode table n = .ok c) :
    c.command = (match table.find? (·.1 == n.command) with | some (_, v) => v | none => n.command) ∧
    c.args = n.args.filter (fun a => a.name != "NewFieldName" && a.name != "OutFileName") ∧
    c.line = n.line ∧ ∃ s, c.resultName = some s ∧ v2ResultName n = some (.str s) := by
  obtain ⟨s, hs, rfl⟩ := convertNode_ok table n c h
  exact ⟨rfl, rfl, rfl, s, rfl, hs⟩

theorem result_name_own (n : CNode) (r : String) (h : n.resultName = some r) (hr : r ≠ "") :
    v2ResultName n = some (.str r) := by
  unfold v2ResultName
  simp [h, EVal.truthy, hr]

/-- without a result name, a non-empty `NewFieldName` is the result name -/
theorem result_name_new_field (n : CNode) (s : String) (h : n.resultName = none)
    (hn : findArgument n "NewFieldName" = some (.str s)) (hs : s ≠ "") : v2ResultName n = some (.str s) := by
  unfold v2ResultName
  simp [h, hn, EVal.truthy, hs]

/-- without result name and `NewFieldName`, a non-empty `InFieldName` is the result name -/
theorem result_name_in_field (n : CNode) (s : String) (h : n.resultName = none)
    (hn : findArgument n "NewFieldName" = none) (hi : findArgument n "InFieldName" = some (.str s)) (hs : s ≠ "") :
    v2ResultName n = some (.str s) := by
  unfold v2ResultName
  simp [h, hn, hi, EVal.truthy, hs]

/-- a command with no result name and neither a `NewFieldName` nor an `InFieldName` argument is rejected with a program error at its own line
(an `InFieldName` that is there but empty is taken as the name, `""`, as Python's `or` yields its last operand) -/
theorem no_result_name_rejected (table : List (String × String)) (n : CNode) (h : n.resultName = none)
    (hn : findArgument n "NewFieldName" = none) (hi : findArgument n "InFieldName" = none) :
    convertNode table n = .error (.mp "ProgramError" (some n.line)) := by
  unfold convertNode v2ResultName
  simp [h, hn, hi]

/-- conversion is applied exactly when the parser saw EEMS 2.0 syntax or some command carries an EEMS 2.0 name -/
theorem trigger (table : List (String × String)) (p : PNode) :
    needsConversion table p = true ↔ p.version = 2 ∨ ∃ c ∈ p.commands, ∃ kv ∈ table, kv.1 = c.command := by
  unfold needsConversion
  simp only [Bool.or_eq_true, beq_iff_eq, List.any_eq_true]

/-- converting an MPilot-style command (its own result name, a command name the table does not hold, neither of the two EEMS 2.0-only
arguments) changes nothing: an MPilot file that happens to be treated as EEMS 2.0 (mixed files) loads to the same commands -/
theorem convert_mpilot_style (table : List (String × String)) (n : CNode) (r : String) (h : n.resultName = some r) (hr : r ≠ "")
    (hcmd : table.find? (·.1 == n.command) = none)
    (hargs : ∀ a ∈ n.args, a.name ≠ "NewFieldName" ∧ a.name ≠ "OutFileName") :
    convertNode table n = .ok n := by
  have hf : n.args.filter (fun a => a.name != "NewFieldName" && a.name != "OutFileName") = n.args :=
    List.filter_eq_self.mpr fun a ha => by simp [hargs a ha]
  rw [convertNode, result_name_own n r h hr]
  simp only [hcmd, hf]
  cases n
  cases h
  rfl

/-! ### whole files: an EEMS 2.0 file loads to the same program as the MPilot file obtained by the mapping -/

/-- no target of the table is itself an EEMS 2.0 name: a translated file is not translated again -/
def TargetsNotKeys (table : List (String × String)) : Prop := ∀ kv ∈ table, ∀ kv' ∈ table, kv.2 ≠ kv'.1

instance (table : List (String × String)) : Decidable (TargetsNotKeys table) := by unfold TargetsNotKeys; infer_instance

/-- re-checked against the table extracted from the source on every run -/
theorem targets_not_keys : TargetsNotKeys eems2Table := by decide +kernel

/-- **conversion of a whole file is the mapping applied command by command, in order** -/
theorem convertAll_spec (table : List (String × String)) : ∀ (ns cs : List CNode), convertAll table ns = .ok cs →
    List.Forall₂ (fun n c => ∃ s, v2ResultName n = some (.str s) ∧ c = mapped table n s) ns cs := by
  intro ns
  fun_induction convertAll table ns with
  | case1 => intro cs h; cases h; exact .nil
  | case4 n rest c hc cs' hcs ih => intro cs h; cases h; exact .cons (convertNode_ok table n c hc) (ih cs' hcs)
  | _ => intro cs h; cases h

theorem convertAll_error (table : List (String × String)) : ∀ (ns : List CNode) (e : PErr), convertAll table ns = .error e →
    ∃ n ∈ ns, e = .mp "ProgramError" (some n.line) ∧ ∀ s, v2ResultName n ≠ some (.str s) := by
  intro ns
  fun_induction convertAll table ns with
  | case2 n rest e' he => intro e h; cases h; exact ⟨n, List.mem_cons_self, convertNode_error table n _ he⟩
  | case3 n rest c hc e' he ih => intro e h; cases h; exact List.exists_mem_cons_of_exists (ih _ he)
  | _ => intro e h; cases h

theorem mapped_not_key (table : List (String × String)) (ht : TargetsNotKeys table) (n : CNode) (s : String) :
    table.any (·.1 == (mapped table n s).command) = false := by
  rw [List.any_eq_false]
  intro kv hkv heq
  unfold mapped at heq
  dsimp only at heq
  -- the command is a target of the table, or a name the table does not hold
  split at heq
  · exact ht _ (List.mem_of_find?_eq_some ‹_›) kv hkv (eq_of_beq heq).symm
  · exact List.find?_eq_none.mp ‹_› kv hkv heq

theorem converted_needs_no_conversion (table : List (String × String)) (ht : TargetsNotKeys table) (ns cs : List CNode)
    (v : Nat) (hv : v ≠ 2) (h : convertAll table ns = .ok cs) : needsConversion table ⟨cs, v⟩ = false := by
  unfold needsConversion
  have hv' : (v == 2) = false := by simpa using hv
  rw [hv', Bool.false_or, List.any_eq_false]
  intro c hc
  obtain ⟨n, -, s, -, rfl⟩ := forall₂_mem_right (convertAll_spec table ns cs h) hc
  simp [mapped_not_key table ht]

/-- **C16, whole files.**  Let `src2` be a command file the loader treats as EEMS 2.0 (EEMS 2.0 syntax, or some EEMS 2.0 command name), and let
`src1` be a file in MPilot syntax whose commands are exactly the mapped ones (renamed through the table, result name = own name, else
`NewFieldName`, else `InFieldName`; `NewFieldName`/`OutFileName` dropped; same lines).  Then loading either - with any libraries, into any
program - gives the same outcome: the same program (commands, order, result names, declarations, arguments, lines) or the same error. -/
theorem eems2_file_equiv (table : List (String × String)) (ht : TargetsNotKeys table) (lib : String → Option CmdDecl) (p0 : Program)
    (src2 src1 : String) (pn2 pn1 : PNode) (h2 : parse src2 = .ok pn2) (h1 : parse src1 = .ok pn1) (hv : pn1.version ≠ 2)
    (hconv : needsConversion table pn2 = true) (hmap : convertAll table pn2.commands = .ok pn1.commands) :
    loadSource table lib p0 src2 = loadSource table lib p0 src1 := by
  have hno : needsConversion table pn1 = false :=
    converted_needs_no_conversion table ht pn2.commands pn1.commands pn1.version hv hmap
  unfold loadSource
  simp only [h2, h1, hconv, hno, hmap, if_true]
  rfl

/-- the same for the pinned table (side condition discharged on the regenerated table) -/
theorem eems2_file_equiv_builtin (lib : String → Option CmdDecl) (p0 : Program)
    (src2 src1 : String) (pn2 pn1 : PNode) (h2 : parse src2 = .ok pn2) (h1 : parse src1 = .ok pn1) (hv : pn1.version ≠ 2)
    (hconv : needsConversion eems2Table pn2 = true) (hmap : convertAll eems2Table pn2.commands = .ok pn1.commands) :
    loadSource eems2Table lib p0 src2 = loadSource eems2Table lib p0 src1 :=
  eems2_file_equiv eems2Table targets_not_keys lib p0 src2 src1 pn2 pn1 h2 h1 hv hconv hmap

/-- **"the two therefore compute identical results"**: running what the two files load to - for any command semantics, from any state - is the same
computation: same final state (results, execution log) and same error, or the same load error. -/
theorem eems2_results_equal {Val : Type} (sem : Sem Val) (st : St Val) (table : List (String × String)) (ht : TargetsNotKeys table)
    (lib : String → Option CmdDecl) (p0 : Program)
    (src2 src1 : String) (pn2 pn1 : PNode) (h2 : parse src2 = .ok pn2) (h1 : parse src1 = .ok pn1) (hv : pn1.version ≠ 2)
    (hconv : needsConversion table pn2 = true) (hmap : convertAll table pn2.commands = .ok pn1.commands) :
    (loadSource table lib p0 src2).map (fun p => run sem p st) = (loadSource table lib p0 src1).map (fun p => run sem p st) := by
  rw [eems2_file_equiv table ht lib p0 src2 src1 pn2 pn1 h2 h1 hv hconv hmap]

/-- a file that cannot be converted is rejected as a whole: nothing is loaded -/
theorem eems2_unconvertible_rejected (table : List (String × String)) (lib : String → Option CmdDecl) (p0 : Program)
    (src2 : String) (pn2 : PNode) (h2 : parse src2 = .ok pn2) (hconv : needsConversion table pn2 = true)
    (n : CNode) (hn : n ∈ pn2.commands) (hbad : ∀ s, v2ResultName n ≠ some (.str s)) :
    ∃ m ∈ pn2.commands, loadSource table lib p0 src2 = .error (.mp "ProgramError" (some m.line)) := by
  unfold loadSource
  simp only [h2, hconv, if_true]
  cases hc : convertAll table pn2.commands with
  | error e =>
    obtain ⟨m, hm, he, _⟩ := convertAll_error table _ e hc
    exact ⟨m, hm, by simp [he]⟩
  | ok cs =>
    obtain ⟨-, -, s, hs, -⟩ := forall₂_mem_left (convertAll_spec table _ _ hc) hn
    exact absurd hs (hbad s)

/-! non-vacuity: a concrete EEMS 2.0 file and its MPilot counterpart, parsed by the model's own parser.  Both parse, the second is not version 2, the
first needs conversion, and converting its commands gives commands with the result names, command names, argument names and lines of the second
file's (`cnodeSig`).  Argument values are not compared: this is the premise `hmap` of `eems2_file_equiv` up to the values. -/
section
def src2 : String := "READ(InFileName = a.csv, InFieldName = elev, OutFileName = o.csv)\nCVTTOFUZZY(InFieldName = elev, NewFieldName = f, TrueThreshold = 2, FalseThreshold = 0)\n"
def src1 : String := "elev = EEMSRead(InFileName = a.csv, InFieldName = elev)\nf = CvtToFuzzy(InFieldName = elev, TrueThreshold = 2, FalseThreshold = 0)\n"

def cnodeSig (c : CNode) : Option String × String × List (String × Nat) × Nat := (c.resultName, c.command, c.args.map (fun a => (a.name, a.line)), c.line)

example : (match parse src2, parse src1 with
    | .ok pn2, .ok pn1 =>
        pn1.version != 2 && needsConversion eems2Table pn2 &&
        (match convertAll eems2Table pn2.commands with
         | .ok cs => cs.map cnodeSig == pn1.commands.map cnodeSig
         | .error _ => false)
    | _, _ => false) = true := by
  -- each literal is first written as `String.ofList` of its characters, so that `decide` never runs `String.toList` on a literal (`by rfl` finds
  -- the characters by unification; the term `rfl` would be checked once more by running the UTF-8 encoder)
  rw [show src2 = String.ofList _ by rfl, show src1 = String.ofList _ by rfl]
  rw [parse, parse, Lex.lex_eq_lexS, Lex.lex_eq_lexS, String.toList_ofList, String.toList_ofList]
  decide +kernel
end

end MPilot.C16
