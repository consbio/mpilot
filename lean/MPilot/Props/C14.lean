/-
C14 — cyclic models are rejected, never silently skipped.

When the check finds a cycle, `run` returns the recursive-model error with the state (log, memo) untouched.  The depth-first check is sound
(`no_cycle_ranked`: when it finds no cycle the reference graph has a rank function, every reference going to a strictly smaller rank - a cyclic
model is never accepted) and complete (`acyclic_accepted`: a reference graph with a rank function is never rejected).  C01's premise `Ranked`
asks for such a function on what the bodies read; that a body reads only what its command refers to is a fact about bodies, not stated here.
-/
import MPilot.Lemmas.Load

namespace MPilot.C14

variable {Val : Type}

/-- **rejected before anything runs** -/
theorem cycle_rejected_before_execution (sem : Sem Val) (p : Program) (st : St Val)
    (info : List (String × List String × List String)) (hpre : prepass (mkCtx sem p st) p.cmds = .ok info)
    (hcyc : hasCycle p (depsOf info) = true) :
    run sem p st = (st, some (.mp "RecursiveModelStructure" none)) := by
  unfold run
  rw [hpre]
  simp only [hcyc, if_true]

section
variable (deps : String → List String) (known : String → Bool)

/-- every element's known references occur later in the list -/
def Topo (d : List String) : Prop :=
  d.Nodup ∧ ∀ pre x post, d = pre ++ x :: post → ∀ r ∈ deps x, known r = true → r ∈ post

theorem topo_nil : Topo deps known [] := ⟨List.nodup_nil, by intro pre x post h; simp at h⟩

variable {deps known} in
theorem Topo.cons {d : List String} {n : String} (h : Topo deps known d) (hn : n ∉ d) (hd : ∀ r ∈ deps n, known r = true → r ∈ d) :
    Topo deps known (n :: d) := by
  refine ⟨List.nodup_cons.mpr ⟨hn, h.1⟩, fun pre x post hsplit => ?_⟩
  cases pre with
  | nil => cases hsplit; exact hd
  | cons y pre' => exact h.2 pre' x post (List.cons.inj hsplit).2

/-- what a successful visit guarantees.  `fresh`: nothing on the search path is added - so the node whose references are being visited is not in
`done'` when their loop returns, and can be put in front of it (case 9 of `visit_sound`) -/
structure VisitOk (path done done' : List String) : Prop where
  topo : Topo deps known done'
  ext : ∃ pre, done' = pre ++ done
  fresh : ∀ x ∈ done', x ∈ done ∨ x ∉ path

/-- a successful visit adds `n` and all that it reaches to `done`, keeping it in reference order; so does the loop over the references of `n` -/
theorem visit_sound : ∀ (fuel : Nat) (path done : List String) (n : String) (done' : List String),
    visit deps known fuel path done n = some done' → Topo deps known done → n ∉ path →
    VisitOk deps known path done done' ∧ n ∈ done' := by
  intro fuel path done n
  induction fuel, path, done, n using visit.induct_unfolding (deps := deps) (known := known)
    (motive1 := fun _ path n rs d res => ∀ d', res = some d' → Topo deps known d →
      VisitOk deps known (n :: path) d d' ∧ ∀ r ∈ rs, known r = true → r ∈ d')
  -- cases 1-5, the loop over the references of `n`: none left; one back into the path; one done or unknown; one visited in vain; one visited.
  -- cases 6-9, `visit`: no fuel; done before; the loop fails; the loop succeeds.  Where the result is `none` there is nothing to show.
  case case1 h ht => cases h; exact ⟨⟨ht, ⟨[], rfl⟩, fun x hx => .inl hx⟩, by simp⟩
  case case2 h _ => cases h
  case case3 r rs d hc hs ih d' h ht =>
    obtain ⟨vo, hall⟩ := ih d' h ht
    refine ⟨vo, List.forall_mem_cons.mpr ⟨fun hk => ?_, hall⟩⟩
    obtain ⟨pre, rfl⟩ := vo.ext
    simp only [hk, Bool.not_true, Bool.or_false, List.contains_iff_mem] at hs
    exact List.mem_append_right _ hs
  case case4 h _ => cases h
  case case5 n r rs d hc hs d1 hv ih1 ih2 d' h ht =>
    obtain ⟨vo1, hr1⟩ := ih1 d1 hv ht (by simpa using hc)
    obtain ⟨vo2, hall⟩ := ih2 d' h vo1.topo
    obtain ⟨p1, rfl⟩ := vo1.ext
    obtain ⟨p2, rfl⟩ := vo2.ext
    exact ⟨⟨vo2.topo, ⟨p2 ++ p1, (List.append_assoc ..).symm⟩, fun x hx => (vo2.fresh x hx).elim (vo1.fresh x) .inr⟩,
      List.forall_mem_cons.mpr ⟨fun _ => List.mem_append_right _ hr1, hall⟩⟩
  case case6 => exact fun _ h => nomatch h
  case case7 hd => rintro _ ⟨⟩ ht _; exact ⟨⟨ht, ⟨[], rfl⟩, fun x hx => .inl hx⟩, by simpa using hd⟩
  case case8 => exact fun _ h => nomatch h
  case case9 path done n hd d hg ih =>
    rintro _ ⟨⟩ ht hnp
    obtain ⟨vo, hall⟩ := ih d hg ht
    obtain ⟨pre, rfl⟩ := vo.ext
    have hnd' : n ∉ pre ++ done := fun hm =>
      (vo.fresh n hm).elim (by simpa using hd) fun h1 => h1 (List.mem_cons_self ..)
    refine ⟨⟨vo.topo.cons hnd' hall, ⟨n :: pre, rfl⟩, fun x hx => ?_⟩, List.mem_cons_self ..⟩
    rcases List.mem_cons.mp hx with rfl | hx
    · exact .inr hnp
    · exact (vo.fresh x hx).imp_right fun h1 hp => h1 (List.mem_cons_of_mem _ hp)

end

/-- the outer loop of the check: visits every command -/
theorem hasCycle_go_sound (p : Program) (deps : String → List String) :
    ∀ (cs : List PCmd) (done : List String), hasCycle.go p deps (fun n => (p.find? n).isSome) cs done = false →
      Topo deps (fun n => (p.find? n).isSome) done →
      ∃ D, Topo deps (fun n => (p.find? n).isSome) D ∧ (∀ c ∈ cs, c.resultName ∈ D) ∧ ∀ x ∈ done, x ∈ D := by
  intro cs done
  fun_induction hasCycle.go p deps (fun n => (p.find? n).isSome) cs done with
  | case1 done => exact fun _ ht => ⟨done, ht, by simp, fun _ => id⟩
  | case2 c rest done hv => exact fun h => nomatch h
  | case3 c rest done d hv ih =>
    intro h ht
    obtain ⟨vo, hmem⟩ := visit_sound deps _ _ [] done c.resultName d hv ht (by simp)
    obtain ⟨D, hD, hall, hsub⟩ := ih h vo.topo
    obtain ⟨pre, rfl⟩ := vo.ext
    exact ⟨D, hD, List.forall_mem_cons.mpr ⟨hsub _ hmem, hall⟩, fun x hx => hsub x (List.mem_append_right _ hx)⟩

/-- **soundness of acceptance.**  If the check reports no cycle, every reference between commands goes to a strictly smaller rank:
the reference graph is acyclic.  Contrapositive: a model whose references contain a cycle (a self-reference included) is always rejected. -/
theorem no_cycle_ranked (p : Program) (deps : String → List String) (h : hasCycle p deps = false) :
    ∃ r : String → Nat, ∀ c ∈ p.cmds, ∀ d ∈ deps c.resultName, (p.find? d).isSome = true → r d < r c.resultName := by
  unfold hasCycle at h
  obtain ⟨D, ⟨hnd, htopo⟩, hall, _⟩ := hasCycle_go_sound p deps p.cmds [] h (topo_nil deps _)
  -- the rank of a name is its position counted from the end of the finishing order: what a command refers to stands behind it
  refine ⟨D.reverse.idxOf, fun c hc d hd hk => ?_⟩
  obtain ⟨pre, post, rfl⟩ := List.append_of_mem (hall c hc)
  have hdpost := htopo pre c.resultName post rfl d hd hk
  have hcpost : c.resultName ∉ post.reverse := fun hm =>
    (List.nodup_cons.mp (List.nodup_append.mp hnd).2.1).1 (List.mem_reverse.mp hm)
  dsimp only
  rw [List.reverse_append, List.reverse_cons, List.append_assoc, List.idxOf_append_of_notMem hcpost,
    List.idxOf_append_of_mem (List.mem_reverse.mpr hdpost)]
  simpa using List.idxOf_lt_length_of_mem (List.mem_reverse.mpr hdpost)

section
variable (p : Program) (deps : String → List String) (r : String → Nat)

/-- the names on a search path are distinct commands, so there are at most as many as commands -/
theorem path_short (l : List String) (hnd : l.Nodup) (hk : ∀ x ∈ l, (p.find? x).isSome = true) : l.length ≤ p.cmds.length := by
  have hsub : l ⊆ p.cmds.map (·.resultName) := fun x hx =>
    List.mem_map.mpr ((p.find?_isSome_iff x).mp (hk x hx))
  simpa using hnd.length_le_of_subset hsub

/-- a visit under an acyclic (ranked) reference relation never reports a cycle -/
theorem visit_complete (hr : ∀ x d, (p.find? x).isSome = true → d ∈ deps x → (p.find? d).isSome = true → r d < r x) :
    ∀ (fuel : Nat) (path done : List String) (n : String),
      (p.find? n).isSome = true → (n :: path).Nodup → (∀ q ∈ path, (p.find? q).isSome = true ∧ r n < r q) →
      fuel + path.length = p.cmds.length + 1 →
      ∃ d', visit deps (fun n => (p.find? n).isSome) fuel path done n = some d' := by
  intro fuel path done n
  induction fuel, path, done, n using visit.induct_unfolding (deps := deps) (known := fun n => (p.find? n).isSome)
    (motive1 := fun fuel path n rs _ res => (∀ x ∈ rs, x ∈ deps n) → (p.find? n).isSome = true → (n :: path).Nodup →
      (∀ q ∈ path, (p.find? q).isSome = true ∧ r n < r q) → fuel + 1 + path.length = p.cmds.length + 1 → ∃ d', res = some d')
  case case1 => exact ⟨_, rfl⟩
  case case2 n r _ _ hc hsub hk _ hp _ =>
    -- a reference back into the path would go to a rank that is not smaller
    have hx := hsub r List.mem_cons_self
    rcases List.mem_cons.mp (List.contains_iff_mem.mp hc) with rfl | hq
    · exact absurd (hr _ _ hk hx hk) (Nat.lt_irrefl _)
    · exact absurd (hr n r hk hx (hp r hq).1) (Nat.lt_asymm (hp r hq).2)
  case case3 ih hsub hk hnd hp hf => exact ih (fun y hy => hsub y (List.mem_cons_of_mem _ hy)) hk hnd hp hf
  case case4 n r _ d hc hs hv ih hsub hk hnd hp _ =>
    -- the reference is a command outside the path, of smaller rank than everything on it: its visit succeeds
    have hx := hsub r List.mem_cons_self
    have hkr : (p.find? r).isSome = true := by
      cases h : (p.find? r).isSome with | true => rfl | false => simp [h] at hs
    obtain ⟨d', hd'⟩ := ih hkr (List.nodup_cons.mpr ⟨by simpa using hc, hnd⟩)
      (fun q hq => (List.mem_cons.mp hq).elim (fun e => e ▸ ⟨hk, hr _ _ hk hx hkr⟩)
        fun hq => ⟨(hp q hq).1, Nat.lt_trans (hr _ _ hk hx hkr) (hp q hq).2⟩) (by simp; omega)
    cases hv.symm.trans hd'
  case case5 ih hsub hk hnd hp hf => exact ih (fun y hy => hsub y (List.mem_cons_of_mem _ hy)) hk hnd hp hf
  case case6 path _ n =>
    intro hk hnd hp hf
    have := path_short p (n :: path) hnd fun x hx => (List.mem_cons.mp hx).elim (· ▸ hk) fun hx => (hp x hx).1
    simp at this hf; omega
  case case7 => exact fun _ _ _ _ => ⟨_, rfl⟩
  case case8 hg ih =>
    intro hk hnd hp hf
    obtain ⟨d', hd'⟩ := ih (fun _ => id) hk hnd hp (by omega)
    cases hg.symm.trans hd'
  case case9 => exact fun _ _ _ _ => ⟨_, rfl⟩

/-- **completeness of the check.**  If the references between commands are acyclic (a rank function exists), the check reports
no cycle: an acyclic model - diamonds, forward references, repeated references included - is never rejected as recursive. -/
theorem acyclic_accepted (hr : ∀ x d, (p.find? x).isSome = true → d ∈ deps x → (p.find? d).isSome = true → r d < r x) :
    hasCycle p deps = false := by
  have go : ∀ (cs : List PCmd) (done : List String), (∀ c ∈ cs, c ∈ p.cmds) →
      hasCycle.go p deps (fun n => (p.find? n).isSome) cs done = false := by
    intro cs done hsub
    fun_induction hasCycle.go p deps (fun n => (p.find? n).isSome) cs done with
    | case1 => rfl
    | case2 c rest done hv =>
      obtain ⟨d, hd⟩ := visit_complete p deps r hr (p.cmds.length + 1) [] done c.resultName
        (Program.find?_of_mem (hsub c List.mem_cons_self)) (by simp) (by simp) (by simp)
      cases hv.symm.trans hd
    | case3 c rest done d hv ih => exact ih fun x hx => hsub x (List.mem_cons_of_mem _ hx)
  exact go p.cmds [] fun _ => id

end

end MPilot.C14
