/-
C04 — every fuzzy-producing command returns only values in [-1, +1] at its non-missing cells.
-/
import MPilot.Lemmas.PlanProps
import Mathlib.Tactic.NormNum

namespace MPilot.C04

def InFuzzyRange (r : Arr) : Prop := ∀ c ∈ r.cells, c.mask = false → -1 ≤ c.val ∧ c.val ≤ 1

theorem insure_range (a : Arr) : InFuzzyRange (a.insure (-1) 1) := by
  intro c hc hm
  obtain ⟨d, _, rfl⟩ := List.mem_map.mp hc
  have hd : d.mask = false := (Cell.insure_mask _ _ d).symm.trans hm
  simp only [Cell.insure, hd, Bool.false_eq_true, if_false]
  exact clampHiLo_mem (by norm_num) d.val

/-- single-input commands: every arity other than one is the model's `Arity` error -/
macro "one_input" xs:ident h:ident a:ident : tactic =>
  `(tactic| (rcases $xs:ident with _ | ⟨$a:ident, _ | ⟨_, _⟩⟩ <;> simp only [exec] at $h:ident <;>
      first | (exact absurd $h:ident (eRaw_ne_ok _ _)) | skip))

/-- **C04.** Every fuzzy-producing command returns values in [-1, 1] at every non-missing cell — for every input
(any number, shape, element type, masks, hidden payloads), every parameter value (thresholds, weights, category,
curve and z-score values outside the fuzzy range included) and every `sqrt`. No hypothesis on the inputs. -/
theorem fuzzy_range (sqrt : Rat → Rat) (c : DataCmd) (xs : List Arr) (r : Arr)
    (hc : c.isFuzzyProducer = true) (h : exec sqrt c xs = .ok r) : InFuzzyRange r := by
  obtain ⟨p, hp, rfl⟩ := exec_ok h
  obtain ⟨-, -, q, -, rfl⟩ := plan_ok hp
  rw [hc, if_pos rfl, Plan.run_andThen]
  exact insure_range _

end MPilot.C04
