/-
C07 — arithmetic commands are correct for all numeric types and input orders.
-/
import MPilot.Lemmas.Perm
import MPilot.Lemmas.List

namespace MPilot.C07

/-! ### cell definitions -/

/-- **Sum**: each result cell is missing iff some input cell is, and otherwise holds the sum of the input cells. -/
theorem sum_cell (sqrt : Rat → Rat) (a : Arr) (t : List Arr) (r : Arr) (i : Nat)
    (h : exec sqrt .sum (a :: t) = .ok r) (hi : ∀ x ∈ a :: t, i < x.cells.length) :
    ∃ c, r.cells[i]? = some c ∧ c.mask = (column (a :: t) i).any (·.mask) ∧
      (c.mask = false → c.val = ((column (a :: t) i).map (·.val)).sum) := by
  -- `exec sqrt .sum xs` is `naryFold .cmd (· + ·) xs` by computation (Multiply, Minimum, Maximum likewise), so `h` is what `naryFold_cell` asks for
  have := naryFold_cell .cmd (· + ·) a t r i h hi
  rw [fold1_add] at this
  exact this

/-- **Mean**: each result cell is missing iff some input cell is, and otherwise holds the arithmetic mean of the input cells. -/
theorem mean_cell (sqrt : Rat → Rat) (a : Arr) (t : List Arr) (r : Arr) (i : Nat)
    (h : exec sqrt .mean (a :: t) = .ok r) (hi : ∀ x ∈ a :: t, i < x.cells.length) :
    ∃ c, r.cells[i]? = some c ∧ c.mask = (column (a :: t) i).any (·.mask) ∧
      (c.mask = false → c.val = ((column (a :: t) i).map (·.val)).sum / ((a :: t).length : Nat)) := by
  dsimp only [exec] at h
  obtain ⟨_, _, h⟩ := bind_ok h
  cases h
  exact meanArr_cell a t i hi

/-- what `weightedAcc` leaves in cell `i`: missing iff some input is missing there, else the weighted sum of the column -/
theorem weightedAcc_cell (w : Num) (wr : List Num) (a : Arr) (as : List Arr) (dt : DType) (i : Nat) (hlen : wr.length = as.length)
    (hi : ∀ x ∈ a :: as, i < x.cells.length) :
    ∃ c, (weightedAcc (w :: wr) (a :: as) dt).cells[i]? = some c ∧ c.mask = (column (a :: as) i).any (·.mask) ∧
      (c.mask = false → c.val = (List.zipWith (fun (w : Num) (c : Cell) => c.val * w.val) (w :: wr) (column (a :: as) i)).sum) :=
  weightedAcc_cellAt w wr a as dt i hlen hi

/-- **WeightedSum**: each result cell is missing iff some input cell is, and otherwise holds Σ weightⱼ · inputⱼ. -/
theorem weightedSum_cell (sqrt : Rat → Rat) (w : Num) (wr : List Num) (a : Arr) (as : List Arr) (r : Arr) (i : Nat)
    (h : exec sqrt (.weightedSum (w :: wr)) (a :: as) = .ok r) (hi : ∀ x ∈ a :: as, i < x.cells.length) :
    ∃ c, r.cells[i]? = some c ∧ c.mask = (column (a :: as) i).any (·.mask) ∧
      (c.mask = false → c.val = (List.zipWith (fun (w : Num) (c : Cell) => c.val * w.val) (w :: wr) (column (a :: as) i)).sum) := by
  dsimp only [exec] at h
  rw [eMp, ite_error_eq_ok] at h
  obtain ⟨hlen, h⟩ := h
  obtain ⟨_, _, h⟩ := bind_ok h
  cases h
  exact weightedAcc_cell w wr a as _ i (by simpa using hlen) hi

/-- **Multiply**: each result cell is missing iff some input cell is, and otherwise holds the product of the input cells. -/
theorem multiply_cell (sqrt : Rat → Rat) (a : Arr) (t : List Arr) (r : Arr) (i : Nat)
    (h : exec sqrt .multiply (a :: t) = .ok r) (hi : ∀ x ∈ a :: t, i < x.cells.length) :
    ∃ c, r.cells[i]? = some c ∧ c.mask = (column (a :: t) i).any (·.mask) ∧
      (c.mask = false → c.val = ((column (a :: t) i).map (·.val)).prod) := by
  have := naryFold_cell .cmd (· * ·) a t r i h hi
  rw [fold1_mul _ (column_vals_ne_nil a t i)] at this
  exact this

/-- **Minimum**: the result cell is one of the input cells and is ≤ every one of them (i.e. their minimum). -/
theorem minimum_cell (sqrt : Rat → Rat) (a : Arr) (t : List Arr) (r : Arr) (i : Nat)
    (h : exec sqrt .minimum (a :: t) = .ok r) (hi : ∀ x ∈ a :: t, i < x.cells.length) :
    ∃ c, r.cells[i]? = some c ∧ c.mask = (column (a :: t) i).any (·.mask) ∧
      (c.mask = false → c.val ∈ (column (a :: t) i).map (·.val) ∧ ∀ y ∈ (column (a :: t) i).map (·.val), c.val ≤ y) := by
  exact (naryFold_cell .cmd ratMin a t r i h hi).imp (P := fun v => v ∈ _ ∧ ∀ y ∈ _, v ≤ y) fun _ => ⟨fold1_min_mem (column_vals_ne_nil a t i), fold1_min_le _⟩

/-- **Maximum**: the result cell is one of the input cells and is ≥ every one of them. -/
theorem maximum_cell (sqrt : Rat → Rat) (a : Arr) (t : List Arr) (r : Arr) (i : Nat)
    (h : exec sqrt .maximum (a :: t) = .ok r) (hi : ∀ x ∈ a :: t, i < x.cells.length) :
    ∃ c, r.cells[i]? = some c ∧ c.mask = (column (a :: t) i).any (·.mask) ∧
      (c.mask = false → c.val ∈ (column (a :: t) i).map (·.val) ∧ ∀ y ∈ (column (a :: t) i).map (·.val), y ≤ c.val) := by
  exact (naryFold_cell .cmd ratMax a t r i h hi).imp (P := fun v => v ∈ _ ∧ ∀ y ∈ _, y ≤ v) fun _ => ⟨fold1_max_mem (column_vals_ne_nil a t i), fold1_max_ge _⟩

/-- **AMinusB**: cell-wise difference, missing iff either operand is. -/
theorem aMinusB_cells (sqrt : Rat → Rat) (a b r : Arr) (h : exec sqrt .aMinusB [a, b] = .ok r) :
    r.dtype = a.dtype.promote b.dtype ∧ r.cells = List.zipWith (Cell.bin (· - ·)) a.cells b.cells := by
  dsimp only [exec] at h
  obtain ⟨_, _, h⟩ := bind_ok h
  cases h
  exact ⟨rfl, rfl⟩

/-- **ADividedByB**: the result is floating; cell-wise quotient. -/
theorem aDividedByB_cells (sqrt : Rat → Rat) (a b r : Arr) (h : exec sqrt .aDividedByB [a, b] = .ok r) :
    r.dtype = .float ∧ r.cells = List.zipWith Cell.div a.cells b.cells := by
  dsimp only [exec] at h
  obtain ⟨_, _, h⟩ := bind_ok h
  cases h
  exact ⟨rfl, rfl⟩

/-- **Division by zero yields a missing cell, never an error**: a quotient cell is missing exactly when an operand is
missing or the divisor is 0, and otherwise holds `a / b`. -/
theorem div_zero_masked (x y : Cell) :
    ((Cell.div x y).mask = true ↔ x.mask = true ∨ y.mask = true ∨ y.val = 0) ∧
    ((Cell.div x y).mask = false → (Cell.div x y).val = x.val / y.val) := by
  unfold Cell.div
  constructor
  · simp [Bool.or_eq_true, or_assoc]
  · intro h; simp only at h ⊢; rw [if_neg (by simpa using h)]

/-- a same-shaped pair never makes `ADividedByB` fail, whatever the divisor holds -/
theorem aDividedByB_total (sqrt : Rat → Rat) (a b : Arr) (hs : a.shape = b.shape) :
    ∃ r, exec sqrt .aDividedByB [a, b] = .ok r := by
  dsimp only [exec]
  rw [validateShapes_eq, if_neg (List.cons_ne_nil _ _), if_pos ((sameShape_cons a [b]).mpr fun c hc => by rw [List.mem_singleton.mp hc, hs])]
  exact ⟨_, rfl⟩

/-! ### every input order gives the same outcome (same error, or visibly equal results)

`n`, `hn`: the inputs hold equally many cells, as arrays of one shape do.  The model does not tie `cells` to `shape`, so the shape check of the
bodies does not give this, and the cell lemmas under these theorems (`foldArr_cellAt`) speak of positions that every input has. -/

theorem sum_perm (sqrt : Rat → Rat) {xs xs' : List Arr} (h : xs.Perm xs') (n : Nat) (hn : ∀ x ∈ xs, x.cells.length = n) :
    ExceptR (exec sqrt .sum xs) (exec sqrt .sum xs') :=
  naryFold_perm .cmd (· + ·) add_comm add_assoc h n hn

theorem multiply_perm (sqrt : Rat → Rat) {xs xs' : List Arr} (h : xs.Perm xs') (n : Nat) (hn : ∀ x ∈ xs, x.cells.length = n) :
    ExceptR (exec sqrt .multiply xs) (exec sqrt .multiply xs') :=
  naryFold_perm .cmd (· * ·) mul_comm mul_assoc h n hn

theorem minimum_perm (sqrt : Rat → Rat) {xs xs' : List Arr} (h : xs.Perm xs') (n : Nat) (hn : ∀ x ∈ xs, x.cells.length = n) :
    ExceptR (exec sqrt .minimum xs) (exec sqrt .minimum xs') :=
  naryFold_perm .cmd ratMin ratMin_comm ratMin_assoc h n hn

theorem maximum_perm (sqrt : Rat → Rat) {xs xs' : List Arr} (h : xs.Perm xs') (n : Nat) (hn : ∀ x ∈ xs, x.cells.length = n) :
    ExceptR (exec sqrt .maximum xs) (exec sqrt .maximum xs') :=
  naryFold_perm .cmd ratMax ratMax_comm ratMax_assoc h n hn

theorem mean_perm (sqrt : Rat → Rat) {xs xs' : List Arr} (h : xs.Perm xs') (n : Nat) (hn : ∀ x ∈ xs, x.cells.length = n) :
    ExceptR (exec sqrt .mean xs) (exec sqrt .mean xs') := by
  dsimp only [exec]
  rw [← h.length_eq]
  refine validated_perm .cmd h fun hne hs => ?_
  obtain ⟨a, t, a', t', rfl, rfl⟩ := exists_cons_cons_of_perm h hne
  exact ExceptR.ok (mapCells_R (fun _ _ => divSc_R _) (foldArr_perm (· + ·) add_comm add_assoc .float h n hn hs))

/-! ### the weighted pair: inputs and weights permuted alongside -/

/-- **WeightedSum is independent of the order of its inputs** (weights permuted alongside): the same error, or visibly equal results. -/
theorem weightedSum_perm (sqrt : Rat → Rat) {ws ws' : List Num} {xs xs' : List Arr} (hl : ws.length = xs.length) (hl' : ws'.length = xs'.length)
    (h : (ws.zip xs).Perm (ws'.zip xs')) (n : Nat) (hn : ∀ x ∈ xs, x.cells.length = n) :
    ExceptR (exec sqrt (.weightedSum ws) xs) (exec sqrt (.weightedSum ws') xs') := by
  obtain ⟨hw, hx⟩ := perm_of_zip_perm hl hl' h
  dsimp only [exec]
  simp only [hl, hl', bne_self_eq_false, Bool.false_eq_true, if_false]
  rw [← promoteAll_perm hx, ← numsAllInt_perm hw]
  exact validated_perm .cmd hx fun hne hs => ExceptR.ok (weightedAcc_perm hl hl' h n hn hne hs _)

/-- **WeightedMean is independent of the order of its inputs** (weights permuted alongside). -/
theorem weightedMean_perm (sqrt : Rat → Rat) {ws ws' : List Num} {xs xs' : List Arr} (hl : ws.length = xs.length) (hl' : ws'.length = xs'.length)
    (h : (ws.zip xs).Perm (ws'.zip xs')) (n : Nat) (hn : ∀ x ∈ xs, x.cells.length = n) :
    ExceptR (exec sqrt (.weightedMean ws) xs) (exec sqrt (.weightedMean ws') xs') := by
  obtain ⟨hw, hx⟩ := perm_of_zip_perm hl hl' h
  dsimp only [exec]
  simp only [hl, hl', bne_self_eq_false, Bool.false_eq_true, if_false]
  rw [← sumNums_perm hw]
  exact validated_perm .cmd hx fun hne hs =>
    ExceptR.ok (mapCells_R (fun _ _ => divSc_R _) (weightedAcc_perm hl hl' h n hn hne hs _))

/-! ### specific errors, in the order the bodies check them -/

/-- an empty input list is reported as `EmptyInputs` by every list-taking arithmetic command -/
theorem empty_inputs_error (sqrt : Rat → Rat) :
    exec sqrt .sum [] = eMp "EmptyInputs" .cmd ∧ exec sqrt .multiply [] = eMp "EmptyInputs" .cmd ∧
    exec sqrt .minimum [] = eMp "EmptyInputs" .cmd ∧ exec sqrt .maximum [] = eMp "EmptyInputs" .cmd ∧
    exec sqrt .mean [] = eMp "EmptyInputs" .cmd ∧ exec sqrt (.weightedSum []) [] = eMp "EmptyInputs" .cmd ∧
    exec sqrt (.weightedMean []) [] = eMp "EmptyInputs" .cmd := by
  refine ⟨rfl, rfl, rfl, rfl, rfl, rfl, rfl⟩

/-- two or more inputs that do not all have one shape are reported as `MixedArrayShapes` -/
theorem mixed_shapes_error (sqrt : Rat → Rat) (a b : Arr) (t : List Arr) (h : ¬SameShape (a :: b :: t)) :
    exec sqrt .sum (a :: b :: t) = eMp "MixedArrayShapes" .cmd ∧
    exec sqrt .multiply (a :: b :: t) = eMp "MixedArrayShapes" .cmd ∧
    exec sqrt .minimum (a :: b :: t) = eMp "MixedArrayShapes" .cmd ∧
    exec sqrt .maximum (a :: b :: t) = eMp "MixedArrayShapes" .cmd ∧
    exec sqrt .mean (a :: b :: t) = eMp "MixedArrayShapes" .cmd := by
  have hv : validateShapes .cmd (a :: b :: t) = eMp "MixedArrayShapes" .cmd := by
    rw [validateShapes_eq, if_neg (by simp), if_neg h]
  dsimp only [exec]
  simp only [naryFold, hv]
  exact ⟨rfl, rfl, rfl, rfl, rfl⟩

/-- a weight count different from the input count is reported as `MismatchedWeights`, before shapes are looked at -/
theorem mismatched_weights_error (sqrt : Rat → Rat) (w : List Num) (xs : List Arr) (h : w.length ≠ xs.length) :
    exec sqrt (.weightedSum w) xs = eMp "MismatchedWeights" .none ∧
    exec sqrt (.weightedMean w) xs = eMp "MismatchedWeights" .none := by
  dsimp only [exec]
  have : (w.length != xs.length) = true := by simpa using h
  simp only [this, if_true, and_self]

/-- non-vacuity: a concrete two-input Sum of an integer and a floating array with a missing cell -/
example : exec (fun x => x) .sum [⟨.int, [2], [⟨1, false⟩, ⟨5, true⟩]⟩, ⟨.float, [2], [⟨1/2, false⟩, ⟨2, false⟩]⟩]
    = .ok ⟨.float, [2], [⟨3/2, false⟩, ⟨5, true⟩]⟩ := by decide +kernel

end MPilot.C07
