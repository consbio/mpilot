/-
C19 — command lookup depends only on the libraries requested.
-/
import MPilot.Model.Registry
import MPilot.Generated.Decls
import MPilot.Generated.Libraries

namespace MPilot.C19
open MPilot.Generated

/-- **the lookup is a function of the registered entries that lie under the requested libraries** — nothing else of the registry matters -/
theorem lookup_congr (reg reg' : Registry) (libs : List String)
    (h : reg.filter (inLibs libs) = reg'.filter (inLibs libs)) : lookup reg libs = lookup reg' libs := by
  unfold lookup; rw [h]

theorem filter_register_outside (reg : Registry) (libs : List String) (e : RegEntry) (h : inLibs libs e = false) :
    (register reg e).filter (inLibs libs) = reg.filter (inLibs libs) := by
  unfold register
  split
  · rfl
  · rw [List.filter_append]; simp [h]

theorem filter_foldl_outside (libs : List String) (es : List RegEntry) (h : ∀ e ∈ es, inLibs libs e = false) :
    ∀ reg : Registry, (es.foldl register reg).filter (inLibs libs) = reg.filter (inLibs libs) := by
  induction es with
  | nil => exact fun _ => rfl
  | cons e t ih =>
    exact fun reg => (ih (fun x hx => h x (List.mem_cons_of_mem _ hx)) _).trans (filter_register_outside reg libs e (h e List.mem_cons_self))

/-- registering a class in a module that is not under any requested library never changes the lookup … -/
theorem register_outside_irrelevant (reg : Registry) (libs : List String) (e : RegEntry) (h : inLibs libs e = false) :
    lookup (register reg e) libs = lookup reg libs :=
  lookup_congr _ _ _ (filter_register_outside reg libs e h)

/-- … and neither does any history of such definitions (other programs' libraries, user libraries with look-alike names) -/
theorem history_outside_irrelevant (libs : List String) (es : List RegEntry) (h : ∀ e ∈ es, inLibs libs e = false) :
    ∀ reg : Registry, lookup (es.foldl register reg) libs = lookup reg libs :=
  fun reg => lookup_congr _ _ _ (filter_foldl_outside libs es h reg)

/-- **no prefix capture**: every command offered comes from a requested library itself or from a module *beneath* it (`lib.`…),
never from a module whose name merely starts with the library's name -/
theorem no_prefix_capture (reg : Registry) (libs : List String) (sel : List RegEntry) (h : lookup reg libs = .ok sel) :
    ∀ e ∈ sel, ∃ l ∈ libs, e.module = l ∨ e.module.startsWith (l ++ ".") = true := by
  unfold lookup at h
  dsimp only at h
  split at h
  · cases h
    intro e he
    obtain ⟨l, hl, hu⟩ := List.any_eq_true.mp (List.mem_filter.mp he).2
    exact ⟨l, hl, by simpa [underLib] using hu⟩
  · cases h

/-- the order in which libraries are requested does not matter -/
theorem lookup_perm (reg : Registry) {libs libs' : List String} (h : libs.Perm libs') : lookup reg libs = lookup reg libs' := by
  rw [lookup, lookup, show inLibs libs = inLibs libs' from funext fun _ => h.any_eq]

/-- **same-named commands from the requested libraries fail at construction** -/
theorem duplicates_rejected (reg : Registry) (libs : List String) (a b : RegEntry)
    (ha : a ∈ reg.filter (inLibs libs)) (hb : b ∈ reg.filter (inLibs libs)) (hne : a ≠ b) (hn : a.name = b.name)
    : ∃ d, lookup reg libs = .error d ∧ a.name ∈ d := by
  unfold lookup
  have hmem : a.name ∈ duplicates (reg.filter (inLibs libs)) := by
    unfold duplicates
    apply List.mem_filter.mpr
    refine ⟨List.mem_eraseDups.mpr (List.mem_map.mpr ⟨a, ha, rfl⟩), ?_⟩
    simp only [decide_eq_true_eq]
    have ha' : a ∈ (reg.filter (inLibs libs)).filter (·.name == a.name) := List.mem_filter.mpr ⟨ha, by simp⟩
    have hb' : b ∈ (reg.filter (inLibs libs)).filter (·.name == a.name) := List.mem_filter.mpr ⟨hb, by simp [hn]⟩
    exact List.Nodup.length_le_of_subset (l₁ := [a, b]) (by simpa using hne) (List.cons_subset.mpr ⟨ha', List.cons_subset.mpr ⟨hb', List.nil_subset _⟩⟩)
  have hne' : (duplicates (reg.filter (inLibs libs))).isEmpty = false := List.isEmpty_eq_false_iff_exists_mem.mpr ⟨_, hmem⟩
  simp only [hne', Bool.false_eq_true, if_false]
  exact ⟨_, rfl, hmem⟩

/-! the built-in library tuples, regenerated from the source on every run -/

/-- neither built-in library set defines a command name twice (two selected commands of one name are what `lookup` refuses) -/
theorem builtin_libraries_duplicate_free :
    (csvDecls.map (·.name)).Nodup ∧ (netcdfDecls.map (·.name)).Nodup := by
  decide +kernel

/-- CSV and NetCDF programs resolve `EEMSRead` / `EEMSWrite` to their own modules -/
theorem readers_resolve_to_own_library :
    (csvDecls.filter (·.name == "EEMSRead")).map (·.module) = ["mpilot.libraries.eems.csv.io"] ∧
    (csvDecls.filter (·.name == "EEMSWrite")).map (·.module) = ["mpilot.libraries.eems.csv.io"] ∧
    (netcdfDecls.filter (·.name == "EEMSRead")).map (·.module) = ["mpilot.libraries.eems.netcdf.io"] ∧
    (netcdfDecls.filter (·.name == "EEMSWrite")).map (·.module) = ["mpilot.libraries.eems.netcdf.io"] := by
  decide +kernel

/-- every built-in command lives in a module under (at least) one of the library names of its set -/
theorem builtin_modules_under_libraries :
    (∀ d ∈ csvDecls, eemsCsvLibraries.any (fun l => underLib l d.module) = true) ∧
    (∀ d ∈ netcdfDecls, eemsNetcdfLibraries.any (fun l => underLib l d.module) = true) := by
  -- comparing module names is what costs here: each distinct module is looked at once
  have once {ds : List CmdDecl} {libs : List String}
      (h : ∀ m ∈ (ds.map (·.module)).eraseDups, libs.any (fun l => underLib l m) = true) :
      ∀ d ∈ ds, libs.any (fun l => underLib l d.module) = true :=
    fun d hd => h _ (List.mem_eraseDups.mpr (List.mem_map_of_mem hd))
  exact ⟨once (by decide +kernel), once (by decide +kernel)⟩

/-- witness for prefix capture: a module `libx_extra` is not under the library `libx` -/
example : underLib "libx" "libx_extra" = false ∧ underLib "libx" "libx.sub" = true ∧ underLib "libx" "libx" = true := by
  decide +kernel

end MPilot.C19
