/-
C12 — "every argument has the declared kind": which raw values the container kinds accept.  A Tuple parameter (every command's `Metadata`)
is `ParameterNotValid` for every raw value that is neither a key-value map nor the empty list - a number (zero included), a text (the empty one
included), a boolean, `None`, a non-empty list, a command - and for no other (`tuple_accepts_iff`; a map is accepted when every value has a text form
the model knows - a text, a whole number, a boolean, `None`: `pyText` -, and is outside the model, `OutsideModel`, when one has not).  A List parameter accepts exactly the lists every item of which is accepted.
-/
import MPilot.Lemmas.Clean

namespace MPilot.C12K

/-- a Tuple parameter accepts (or finds outside the model's text domain) exactly key-value maps and the empty list -/
theorem tuple_accepts_iff (ctx : Ctx) (raw : Raw) :
    clean ctx .tuple raw ≠ .error "ParameterNotValid" ↔ (raw = .list [] ∨ ∃ kv, raw = .dict kv) := by
  constructor
  · intro h
    unfold clean at h
    cases raw with
    | list xs =>
      cases xs with
      | nil => exact Or.inl rfl
      | cons x xs => simp at h
    | dict kv => exact Or.inr ⟨kv, rfl⟩
    | _ => simp at h
  · rintro (rfl | ⟨kv, rfl⟩)
    · unfold clean; simp
    · unfold clean
      simp only
      split <;> simp

/-- the falsy values of other kinds are values of other kinds: refused -/
theorem tuple_rejects_falsy (ctx : Ctx) :
    clean ctx .tuple (.int 0) = .error "ParameterNotValid" ∧ clean ctx .tuple (.float 0) = .error "ParameterNotValid" ∧
    clean ctx .tuple (.str "") = .error "ParameterNotValid" ∧ clean ctx .tuple (.bool false) = .error "ParameterNotValid" ∧
    clean ctx .tuple .none = .error "ParameterNotValid" := by
  refine ⟨?_, ?_, ?_, ?_, ?_⟩ <;> (unfold clean; rfl)

/-- a List parameter accepts only lists -/
theorem list_accepts_only_lists (ctx : Ctx) (item : PSpec) (raw : Raw) (c : Clean) (h : clean ctx (.list item) raw = .ok c) :
    ∃ xs cs, raw = .list xs ∧ c = .list cs ∧ cleanList ctx item xs = .ok cs :=
  clean_list_ok ctx h

/-- ... and a list exactly when every item is accepted, item by item, in order -/
theorem cleanList_ok_iff (ctx : Ctx) (item : PSpec) : ∀ (xs : List Raw) (cs : List Clean),
    cleanList ctx item xs = .ok cs ↔ List.Forall₂ (fun x c => clean ctx item x = .ok c) xs cs :=
  cleanList_eq_ok ctx item

end MPilot.C12K
