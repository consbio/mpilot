/-
C17 — CSV reading and writing are faithful.

Proved about the column-reading logic on the records the csv reader yields (the csv module itself and `float()`/`repr()` are modelled /
trusted, see the trusted base): row order, blank lines skipped, element type, *exactly* the cells equal to the missing value (after
conversion to the element type) missing, independence from the other columns, the reported line of a non-numeric cell.
`csv_row_roundtrip`, `csv_table_roundtrip`: the model of the csv reader inverts the model of the csv writer for every table of text fields
(commas, quotes, line breaks, empty fields: the quoting rules are consistent), so header names needing CSV quoting survive a write/read.
Bit-identity of the numeric cells rests on CPython's shortest-repr guarantee and is established by testing on the implementation only.
-/
import MPilot.Model.Csv
import Mathlib.Tactic.Common

namespace MPilot.C17

/-- the parsed cell of a record at a column (the `columnValues` theorems below write it out: `row[idx]? = some cell ∧ pyFloat cell = …`) -/
def cellOf (idx : Nat) (row : List String) : Option (Option PyFloat) := (row[idx]?).map pyFloat

/-- **row order, blank lines skipped**: a successful read returns, in order, the value of column `idx` of every non-blank record -/
theorem columnValues_spec (idx : Nat) : ∀ (rows : List (List String)) (i : Nat) (vs : List Rat),
    columnValues idx rows i = .ok vs →
    List.Forall₂ (fun (row : List String) q => ∃ cell, row[idx]? = some cell ∧ pyFloat cell = some (.finite q))
      (rows.filter (fun r => !r.isEmpty)) vs := by
  intro rows i
  fun_induction columnValues idx rows i with
  | case1 => intro vs h; cases h; exact .nil
  -- a blank record
  | case2 row rest i he ih => intro vs h; simpa [he] using ih vs h
  -- a record with a readable cell, followed by readable records
  | case7 row rest i he cell hc q hp t hr ih => intro vs h; cases h; simpa [he] using ⟨⟨cell, hc, hp⟩, ih t hr⟩
  | _ => intro vs h; cases h

/-- **unaffected by other columns**: records that agree in column `idx` (and in being blank or not) give the same outcome,
error and reported line included -/
theorem other_columns_irrelevant (idx : Nat) : ∀ (rows rows' : List (List String)) (i : Nat),
    List.Forall₂ (fun (r r' : List String) => r.isEmpty = r'.isEmpty ∧ r[idx]? = r'[idx]?) rows rows' →
    columnValues idx rows i = columnValues idx rows' i := by
  intro rows rows' i h
  induction h generalizing i with
  | nil => rfl
  | @cons r r' t t' hr _ ih =>
    unfold columnValues
    rw [hr.1, hr.2, ih (i + 1)]

/-- **the reported line**: a non-numeric cell in the `k`-th record after the header (blank records counted) is reported on line `k + 2`,
the line of that record in the file when no quoted field spans lines -/
theorem invalid_value_line (idx : Nat) : ∀ (rows : List (List String)) (i l : Nat),
    columnValues idx rows i = .error (.invalidValue l) →
    ∃ k, l = i + k + 2 ∧ ∃ row cell, rows[k]? = some row ∧ row[idx]? = some cell ∧ pyFloat cell = none := by
  intro rows i
  fun_induction columnValues idx rows i with
  -- a blank record: the error comes from a later one
  | case2 row rest i he ih => intro l h; obtain ⟨k, hk, hc⟩ := ih l h; exact ⟨k + 1, by omega, hc⟩
  -- the cell of this record does not parse
  | case4 row rest i he cell hc hp => intro l h; cases h; exact ⟨0, rfl, row, cell, rfl, hc, hp⟩
  -- a readable record: the error comes from a later one
  | case6 row rest i he cell hc q hp e hr ih => intro l h; cases h; obtain ⟨k, hk, hc⟩ := ih l hr; exact ⟨k + 1, by omega, hc⟩
  | _ => intro l h; cases h

/-- **element type and missing cells**: the array read has the requested element type, one cell per value, and a cell is missing
exactly when its value equals the declared missing value after both are converted to the element type -/
theorem csvRead_type_and_mask (text : List Char) (field : String) (missing : Option Rat) (integer : Bool) (a : Arr)
    (h : csvRead text field missing integer = .ok a) :
    a.dtype = (if integer then .int else .float) ∧ a.shape = [a.cells.length] ∧
    ∀ c ∈ a.cells, c.mask = (match missing with
      | some m => c.val == (if integer then ((truncRat m : Int) : Rat) else m)
      | none => false) := by
  unfold csvRead at h
  split at h
  · cases h
  · split at h
    · cases h
    · split at h
      · cases h
      · injection h with h; subst h
        refine ⟨rfl, by simp, ?_⟩
        intro c hc
        simp only [List.mem_map] at hc
        obtain ⟨q, _, rfl⟩ := hc
        cases missing <;> rfl

/-- integer reading truncates toward zero (`int(2.9) = 2`, `int(-2.9) = -2`), so with an Integer column the comparison with the missing
value is made on truncated values -/
example : truncRat (29/10) = 2 ∧ truncRat (-29/10) = -2 ∧ truncRat 3 = 3 ∧ truncRat (5/2) = 2 := by decide +kernel

/-- the csv reader model on a small table with a quoted header, a blank line and a last line without terminator -/
example : csvRows "a,\"x,\"\"y\"\n1,2\n\n3,4".toList = [["a", "x,\"y"], ["1", "2"], [], ["3", "4"]] := by decide +kernel

/-! ### the csv reader inverts the csv writer (header names and any other text fields, quoting included)

The `run_…` lemmas say where folding `csvStep` over a piece of written text takes the reader's state. -/

/-- the characters the writer puts between the quotes of a quoted field -/
def quotedBody (cs : List Char) : List Char := cs.flatMap fun c => if c == '"' then ['"', '"'] else [c]

theorem run_quotedBody (cs : List Char) : ∀ (f : List Char) (fs : List String) (R : List (List String)),
    (quotedBody cs).foldl csvStep ⟨.inQuoted, f, fs, R⟩ = ⟨.inQuoted, cs.reverse ++ f, fs, R⟩ := by
  induction cs with
  | nil => intros; rfl
  | cons c t ih =>
    intro f fs R
    -- one character of the field is read back from what the writer made of it: a quote from its doubling
    have step : (if c == '"' then ['"', '"'] else [c]).foldl csvStep ⟨.inQuoted, f, fs, R⟩ = ⟨.inQuoted, c :: f, fs, R⟩ := by
      by_cases hc : c = '"' <;> simp [hc, csvStep]
    rw [quotedBody, List.flatMap_cons, List.foldl_append, step, ← quotedBody, ih]
    simp

/-- none of the characters that make the writer quote a field (`needsQuote`) -/
def Bare (cs : List Char) : Prop := ∀ c ∈ cs, c ≠ ',' ∧ c ≠ '"' ∧ c ≠ '\n' ∧ c ≠ '\r'

theorem run_bare_inField (cs : List Char) (hb : Bare cs) : ∀ (f : List Char) (fs : List String) (R : List (List String)),
    cs.foldl csvStep ⟨.inField, f, fs, R⟩ = ⟨.inField, cs.reverse ++ f, fs, R⟩ := by
  induction cs with
  | nil => intros; rfl
  | cons c t ih =>
    intro f fs R
    obtain ⟨h1, -, h2, -⟩ := hb c List.mem_cons_self
    rw [List.foldl_cons, show csvStep ⟨.inField, f, fs, R⟩ c = ⟨.inField, c :: f, fs, R⟩ by simp [csvStep, h1, h2],
      ih fun d hd => hb d (List.mem_cons_of_mem _ hd)]
    simp

/-- the reader stands before a field: at the start of a record or behind a comma, nothing buffered -/
def AtStart (a : CsvAcc) : Prop := (a.st = .startRecord ∨ a.st = .startField) ∧ a.field = []

/-- reading the characters of one written field: afterwards the field text is in the buffer (state `inField` or `quoteInQuoted`, in both of
which a comma saves the field and a line break ends the record) - or nothing was read at all (an empty bare field) -/
inductive AfterField (a : CsvAcc) (s : String) : CsvAcc → Prop
  | buffered (b : CsvAcc) : (b.st = .inField ∨ b.st = .quoteInQuoted) → b.field = s.toList.reverse → b.fields = a.fields → b.rows = a.rows →
      AfterField a s b
  | untouched : s = "" → AfterField a s a

theorem needsQuote_false_bare (s : String) (h : needsQuote s = false) : Bare s.toList :=
  fun c hc => by simpa [not_or, and_assoc] using List.any_eq_false.mp h c hc

theorem csvField_chars (s : String) :
    (csvField s).toList = if needsQuote s then '"' :: (quotedBody s.toList ++ ['"']) else s.toList := by
  unfold csvField
  split <;> simp [quotedBody, String.toList_append]

theorem run_field (a : CsvAcc) (ha : AtStart a) (s : String) : AfterField a s ((csvField s).toList.foldl csvStep a) := by
  obtain ⟨hst, hf⟩ := ha
  rw [csvField_chars]
  split
  · -- a quoted field: the opening quote, the body, the closing quote
    have h1 : csvStep a '"' = { a with st := .inQuoted } := by rcases hst with h | h <;> simp [csvStep, h]
    rw [List.foldl_cons, h1, List.foldl_append, run_quotedBody]
    exact .buffered _ (.inr (by simp [csvStep])) (by simp [csvStep, hf]) rfl rfl
  · rename_i hq
    have hb := needsQuote_false_bare s (by simpa using hq)
    cases hs : s.toList with
    | nil => exact .untouched (by simpa using congrArg String.ofList hs)
    | cons c t =>
      rw [hs] at hb
      obtain ⟨e2, e3, e1, -⟩ := hb c List.mem_cons_self
      have h1 : csvStep a c = { a with st := .inField, field := [c] } := by
        rcases hst with h | h <;> simp [csvStep, h, e1, e2, e3, hf]
      rw [List.foldl_cons, h1, run_bare_inField t fun d hd => hb d (List.mem_cons_of_mem _ hd)]
      exact .buffered _ (.inl rfl) (by simp [hs]) rfl rfl

theorem sep_comma {a b : CsvAcc} {s : String} (ha : AtStart a) (h : AfterField a s b) :
    csvStep b ',' = { st := .startField, field := [], fields := s :: a.fields, rows := a.rows } := by
  cases h with
  | buffered b hst hf hfs hr =>
    rcases hst with h | h <;> simp [csvStep, h, CsvAcc.saveField, hf, hfs, hr]
  | untouched hs =>
    subst hs
    obtain ⟨hst, hf⟩ := ha
    rcases hst with h | h <;> simp [csvStep, h, CsvAcc.saveField, hf]

/-- the trap of the format: at the start of a record a bare empty field directly followed by a line break is read as an empty record, not as a
record of one empty field.  Hence `hne` here, the like premise of `run_row`, and the quotes the writer puts around the one field of a row that consists of an empty field (`csvWriteRow`). -/
theorem sep_newline {a b : CsvAcc} {s : String} (ha : AtStart a) (h : AfterField a s b) (hne : a.st = .startField ∨ s ≠ "") :
    csvStep b '\n' = { st := .startRecord, field := [], fields := [], rows := (s :: a.fields).reverse :: a.rows } := by
  cases h with
  | buffered b hst hf hfs hr =>
    rcases hst with h | h <;> simp [csvStep, h, CsvAcc.saveField, CsvAcc.endRecord, hf, hfs, hr]
  | untouched hs =>
    subst hs
    obtain ⟨hst, hf⟩ := ha
    rcases hne with h | h
    · simp [csvStep, h, CsvAcc.saveField, CsvAcc.endRecord, hf]
    · exact absurd rfl h

/-- the characters of a written row, as a recursion over the fields that `run_row` can follow; `intercalate_eq_rowChars` ties it to the `intercalate`
of `csvWriteRow` -/
def rowChars : List String → List Char
  | [] => ['\n']
  | [x] => (csvField x).toList ++ ['\n']
  | x :: y :: t => (csvField x).toList ++ ',' :: rowChars (y :: t)

theorem run_row : ∀ (fs : List String) (a : CsvAcc), fs ≠ [] → AtStart a → (a.st = .startField ∨ fs ≠ [""]) →
    (rowChars fs).foldl csvStep a = { st := .startRecord, field := [], fields := [], rows := (a.fields.reverse ++ fs) :: a.rows }
  | [], _, h, _, _ => absurd rfl h
  | [x], a, _, ha, hne => by
      have hf := run_field a ha x
      rw [rowChars, List.foldl_append, List.foldl_cons, List.foldl_nil, sep_newline ha hf (hne.imp_right fun h e => h (by rw [e]))]
      simp
  | x :: y :: t, a, _, ha, _ => by
      have hf := run_field a ha x
      rw [rowChars, List.foldl_append, List.foldl_cons, sep_comma ha hf, run_row (y :: t) _ (by simp) ⟨Or.inr rfl, rfl⟩ (Or.inl rfl)]
      simp

theorem intercalate_eq_rowChars : ∀ (fs : List String), ((",".intercalate (fs.map csvField)) ++ "\n").toList = rowChars fs
  | [] => rfl
  | [x] => by simp [rowChars, String.toList_append]
  | x :: y :: t => by
      rw [rowChars, ← intercalate_eq_rowChars (y :: t)]
      simp [String.intercalate_cons_cons, String.toList_append]

theorem writeRow_chars (fs : List String) (h : fs ≠ [""]) : (csvWriteRow fs).toList = rowChars fs := by
  unfold csvWriteRow
  split
  · exact absurd rfl h
  · exact intercalate_eq_rowChars fs

theorem run_written_row (fs : List String) (R : List (List String)) :
    (csvWriteRow fs).toList.foldl csvStep ⟨.startRecord, [], [], R⟩ = ⟨.startRecord, [], [], fs :: R⟩ := by
  by_cases h1 : fs = [""]
  · subst h1; rfl
  · rw [writeRow_chars fs h1]
    by_cases h0 : fs = []
    · subst h0; rfl
    · rw [run_row fs _ h0 ⟨Or.inl rfl, rfl⟩ (Or.inr h1)]; simp

/-- **the csv reader inverts the csv writer** (whole tables): header row and data rows alike, any number of rows and columns -/
theorem csv_table_roundtrip (rows : List (List String)) : csvRows (rows.flatMap fun r => (csvWriteRow r).toList) = rows := by
  have key : ∀ (rs R : List (List String)),
      (rs.flatMap fun r => (csvWriteRow r).toList).foldl csvStep ⟨.startRecord, [], [], R⟩ = ⟨.startRecord, [], [], rs.reverse ++ R⟩ := by
    intro rs
    induction rs with
    | nil => intro R; rfl
    | cons r rs ih => intro R; rw [List.flatMap_cons, List.foldl_append, run_written_row, ih]; simp
  unfold csvRows
  rw [key rows []]
  simp

/-- **the csv reader inverts the csv writer** (one row): whatever the fields contain - commas, quotes, line breaks, nothing at all - the
row the writer produces is read back as exactly those fields -/
theorem csv_row_roundtrip (fs : List String) : csvRows (csvWriteRow fs).toList = [fs] := by
  simpa using csv_table_roundtrip [fs]

end MPilot.C17
