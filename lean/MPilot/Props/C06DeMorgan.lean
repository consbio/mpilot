/-
C06 - "Not is an involution that exchanges Or with And", for whole fields at the level of `exec`; and, at the same level, the other laws
that relate the operators: And ≤ Union ≤ Or (`and_union_or_exec`), and FuzzySelectedUnion with k = 1 and k = n (`selectedUnion_one_exec`,
`selectedUnion_all_exec`).

`neg_max_eq_min_neg` (Props/C06.lean) is the law for one column of numbers.  Here it is carried through the commands themselves:
`deMorgan_exec` - for fields whose PRESENT cells lie in [-1, 1] (what is stored beneath missing cells is free), cell by cell,
`FuzzyNot(FuzzyOr(x1 ... xn))` and `FuzzyAnd(FuzzyNot(x1) ... FuzzyNot(xn))` are missing in the same cells and hold the same values elsewhere.
The two building blocks state what Or / And compute without any hypothesis on the inputs (`or_value`, `and_value`: the limited maximum / minimum).
-/
import MPilot.Props.C06Cells

namespace MPilot.C06

/-- what FuzzyOr computes, no hypothesis on the inputs: the maximum of the column, limited to [-1, 1] -/
theorem or_value (sqrt : Rat → Rat) (a : Arr) (t : List Arr) (r : Arr) (i : Nat) (h : exec sqrt .fuzzyOr (a :: t) = .ok r)
    (hi : ∀ x ∈ a :: t, i < x.cells.length) :
    ∃ c, r.cells[i]? = some c ∧ c.mask = (column (a :: t) i).any (·.mask) ∧
      (c.mask = false → c.val = clampHiLo (-1) 1 (fold1 ratMax ((column (a :: t) i).map (·.val)))) :=
  -- `exec sqrt .fuzzyOr xs` is `fuzzyClamp (naryFold ..)` by computation (`.fuzzyAnd` likewise): `h` is what `fuzzyFold_cell` asks for
  fuzzyFold_cell ratMax a t r i h hi

/-- what FuzzyAnd computes: the minimum of the column, limited to [-1, 1] -/
theorem and_value (sqrt : Rat → Rat) (a : Arr) (t : List Arr) (r : Arr) (i : Nat) (h : exec sqrt .fuzzyAnd (a :: t) = .ok r)
    (hi : ∀ x ∈ a :: t, i < x.cells.length) :
    ∃ c, r.cells[i]? = some c ∧ c.mask = (column (a :: t) i).any (·.mask) ∧
      (c.mask = false → c.val = clampHiLo (-1) 1 (fold1 ratMin ((column (a :: t) i).map (·.val)))) :=
  fuzzyFold_cell ratMin a t r i h hi

theorem notArr_cell (x : Arr) (i : Nat) (hi : i < x.cells.length) :
    (notArr x).cells.getD i default = Cell.insure (-1) 1 (Cell.sc (fun v => -v) (x.cells.getD i default)) := by
  simp [notArr, Arr.insure, Arr.mapCells, List.getD_eq_getElem?_getD, hi]

theorem notArr_length (x : Arr) : (notArr x).cells.length = x.cells.length := by
  simp [notArr, Arr.insure, Arr.mapCells]

/-- **De Morgan for whole fields**: `Not(Or(xs))` and `And(Not(x) for x in xs)` agree cell by cell - the same cells missing, the same values elsewhere -
for fields whose present cells hold fuzzy values -/
theorem deMorgan_exec (sqrt : Rat → Rat) (a : Arr) (t : List Arr) (ro rl rr : Arr) (i : Nat)
    (hor : exec sqrt .fuzzyOr (a :: t) = .ok ro) (hl : exec sqrt .fuzzyNot [ro] = .ok rl)
    (hr : exec sqrt .fuzzyAnd ((a :: t).map notArr) = .ok rr)
    (hi : ∀ x ∈ a :: t, i < x.cells.length)
    (hrange : ∀ x ∈ a :: t, ∀ c ∈ x.cells, c.mask = false → -1 ≤ c.val ∧ c.val ≤ 1) :
    ∃ cl cr, rl.cells[i]? = some cl ∧ rr.cells[i]? = some cr ∧ cl.mask = cr.mask ∧ (cl.mask = false → cl.val = cr.val) := by
  -- left side: the Or cell, negated and limited
  rw [exec_fuzzyNot] at hl; cases hl
  have hO : CellAt ro i _ _ := or_value sqrt a t ro i hor hi
  have hL := (hO.sc (fun v => -v)).insure (-1) 1
  -- right side: And over the negated fields, whose column is the negated column
  have hR : CellAt rr i _ _ := and_value sqrt (notArr a) (t.map notArr) rr i hr (by simpa [notArr_length] using hi)
  have hcol : column (notArr a :: t.map notArr) i = (column (a :: t) i).map (fun c => Cell.insure (-1) 1 (Cell.sc (fun v => -v) c)) := by
    rw [← List.map_cons, column, column, List.map_map, List.map_map]
    exact List.map_congr_left fun x hx => notArr_cell x i (hi x hx)
  have hmask : (column (notArr a :: t.map notArr) i).any (·.mask) = (column (a :: t) i).any (·.mask) := by
    rw [hcol, List.any_map]
    exact congrArg _ (funext fun c => (Cell.insure_mask _ _ _).trans (Cell.sc_mask _ c))
  rw [hmask] at hR
  refine hL.rel hR fun hnone => ?_
  -- every cell of the column is present and holds a fuzzy value; so does the negated column
  have hall := column_present (P := fun v => -1 ≤ v ∧ v ≤ 1) hi hrange hnone
  have hvals : (column (notArr a :: t.map notArr) i).map (·.val) = ((column (a :: t) i).map (·.val)).map (fun v => -v) := by
    rw [hcol, List.map_map, List.map_map]
    refine List.map_congr_left fun c hc => ?_
    obtain ⟨hcm, h1, h2⟩ := hall c hc
    simp only [Function.comp, Cell.insure, Cell.sc, hcm, Bool.false_eq_true, if_false]
    exact clamp_neg ⟨h1, h2⟩
  obtain ⟨x, l, hxl⟩ := List.exists_cons_of_ne_nil (l := (column (a :: t) i).map (·.val)) (column_vals_ne_nil a t i)
  rw [clamp_fold1_inrange ratMax_choice a t i hi hrange hnone, hvals, hxl, ← neg_max_eq_min_neg]

theorem clamp_mono {x y : Rat} (h : x ≤ y) : clampHiLo (-1) 1 x ≤ clampHiLo (-1) 1 y := clampHiLo_mono _ _ h

/-- **And ≤ Union ≤ Or, cell by cell, for whole fields and ANY inputs** (no hypothesis on values, hidden or present): the three results are missing
in the same cells, and where they are present the And value is at most the Union value, which is at most the Or value -/
theorem and_union_or_exec (sqrt : Rat → Rat) (a : Arr) (t : List Arr) (ra ru ro : Arr) (i : Nat)
    (hand : exec sqrt .fuzzyAnd (a :: t) = .ok ra) (hun : exec sqrt .fuzzyUnion (a :: t) = .ok ru) (hor : exec sqrt .fuzzyOr (a :: t) = .ok ro)
    (hi : ∀ x ∈ a :: t, i < x.cells.length) :
    ∃ ca cu co, ra.cells[i]? = some ca ∧ ru.cells[i]? = some cu ∧ ro.cells[i]? = some co ∧ ca.mask = cu.mask ∧ cu.mask = co.mask ∧
      (ca.mask = false → ca.val ≤ cu.val ∧ cu.val ≤ co.val) := by
  refine CellAt.rel₃ (and_value sqrt a t ra i hand hi) (union_cell sqrt a t ru i hun hi) (or_value sqrt a t ro i hor hi) fun _ => ?_
  rw [← column_vals_length (a :: t) i]
  have := mean_between ((column (a :: t) i).map (·.val)) (column_vals_ne_nil a t i) _ _ (fold1_min_le _) (fold1_max_ge _)
  exact ⟨clamp_mono this.1, clamp_mono this.2⟩

/-- **FuzzySelectedUnion(Truest, 1) = FuzzyOr and FuzzySelectedUnion(Falsest, 1) = FuzzyAnd, for whole fields and any inputs**: the same cells
missing, the same values elsewhere -/
theorem selectedUnion_one_exec (sqrt : Rat → Rat) (a : Arr) (t : List Arr) (rs ro : Arr) (i : Nat) (truest : Bool)
    (hs : exec sqrt (.fuzzySelectedUnion (if truest then "Truest" else "Falsest") ⟨1, true⟩) (a :: t) = .ok rs)
    (ho : exec sqrt (if truest then .fuzzyOr else .fuzzyAnd) (a :: t) = .ok ro)
    (hi : ∀ x ∈ a :: t, i < x.cells.length) :
    ∃ cs co, rs.cells[i]? = some cs ∧ ro.cells[i]? = some co ∧ cs.mask = co.mask ∧ (cs.mask = false → cs.val = co.val) := by
  obtain ⟨_, _, _, _, hcs⟩ := selectedUnion_cell sqrt _ ⟨1, true⟩ a t rs i hs (hi a List.mem_cons_self)
  have hne := column_vals_ne_nil a t i
  have hk : (⟨1, true⟩ : Num).val.num.toNat = 1 := by decide
  rw [hk] at hcs
  -- the greatest (least) value of a column is unique: the last (first) of the sorted column is the fold of maxima (minima)
  cases truest with
  | true =>
    have hb : (("Truest" : String) == "Truest") = true := by decide
    rw [if_pos rfl, hb] at hcs
    obtain ⟨hmem, hge⟩ := sel_truest_one _ hne
    exact CellAt.rel hcs (or_value sqrt a t ro i ho hi) fun _ =>
      congrArg _ (le_antisymm (fold1_max_ge _ _ hmem) (hge _ (fold1_max_mem hne)))
  | false =>
    have hb : (("Falsest" : String) == "Truest") = false := by decide
    rw [if_neg Bool.false_ne_true, hb] at hcs
    obtain ⟨hmem, hle⟩ := sel_falsest_one _ hne
    exact CellAt.rel hcs (and_value sqrt a t ro i ho hi) fun _ =>
      congrArg _ (le_antisymm (hle _ (fold1_min_mem hne)) (fold1_min_le _ _ hmem))

/-- **FuzzySelectedUnion with k = the number of inputs is FuzzyUnion, for whole fields and any inputs** (Truest or Falsest alike) -/
theorem selectedUnion_all_exec (sqrt : Rat → Rat) (a : Arr) (t : List Arr) (rs ru : Arr) (i : Nat) (sel : String)
    (hs : exec sqrt (.fuzzySelectedUnion sel ⟨((a :: t).length : Nat), true⟩) (a :: t) = .ok rs)
    (hu : exec sqrt .fuzzyUnion (a :: t) = .ok ru)
    (hi : ∀ x ∈ a :: t, i < x.cells.length) :
    ∃ cs cu, rs.cells[i]? = some cs ∧ ru.cells[i]? = some cu ∧ cs.mask = cu.mask ∧ (cs.mask = false → cs.val = cu.val) := by
  obtain ⟨_, _, _, _, hcs⟩ := selectedUnion_cell sqrt sel _ a t rs i hs (hi a List.mem_cons_self)
  refine CellAt.rel hcs (union_cell sqrt a t ru i hu hi) fun _ => congrArg _ ?_
  have hperm := sortRat_perm_self ((column (a :: t) i).map (·.val))
  have hlen : (sortRat ((column (a :: t) i).map (·.val))).length = (a :: t).length := by
    rw [hperm.length_eq, column_vals_length]
  have hk : (⟨((a :: t).length : Nat), true⟩ : Num).val.num.toNat = (sortRat ((column (a :: t) i).map (·.val))).length := by
    rw [hlen]
    show (((a :: t).length : Nat) : Rat).num.toNat = (a :: t).length
    rw [Rat.num_natCast, Int.toNat_natCast]
  rw [hk, sel_all_is_mean, hperm.sum_eq, hlen]

end MPilot.C06
