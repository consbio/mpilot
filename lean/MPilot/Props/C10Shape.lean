/-
C10 — rejection of malformed text, continued: the *shape* every accepted command and argument has.

`Props/C10Reject` proves that illegal characters and unbalanced brackets are rejected.  Here: whatever else the file holds, a command the
parser accepts starts `NAME = NAME (` or (EEMS 2.0 form) `NAME (`, and an argument starts `NAME =`; so a command without its opening
parenthesis, a result name with `=` but no command name behind it, and an argument without `=` are all rejected.
-/
import MPilot.Props.C10Reject

namespace MPilot.C10R

/-- the head of a token list: `NAME = NAME (` or `NAME (` -/
def CommandHead (ts : List Tok) : Prop :=
  ∃ t r, ts = t :: r ∧ t.kind = .id ∧ t.isErr = false ∧
    ((∃ e c l r', r = e :: c :: l :: r' ∧ e.kind = .equal ∧ c.kind = .id ∧ l.kind = .lparen) ∨ (∃ l r', r = l :: r' ∧ l.kind = .lparen))

/-- **every accepted command starts `NAME = NAME (` or `NAME (`** -/
theorem command_head {ts : List Tok} {c : CNode × Bool} {rest : List Tok} (h : command ts = .ok (c, rest)) : CommandHead ts := by
  obtain ⟨t, r, args, rfl, he, hk, ⟨e, n, r1, rfl, _, hk2, _, hk3, ha, _⟩ | ⟨ha, _⟩⟩ := command_ok h
  · obtain ⟨l, r', rfl, _, hl, _⟩ := arguments_ok ha
    exact ⟨t, _, rfl, hk, he, .inl ⟨e, n, l, r', rfl, hk2, hk3, hl⟩⟩
  · obtain ⟨l, r', rfl, _, hl, _⟩ := arguments_ok ha
    exact ⟨t, _, rfl, hk, he, .inr ⟨l, r', rfl, hl⟩⟩

/-- **a file the parser accepts starts with the head of a command** -/
theorem accepted_head {ts : List Tok} {p : PNode} (h : parseToks ts = .ok p) : CommandHead ts := by
  obtain ⟨c, rest, hc⟩ := parseToks_first h
  exact command_head hc

/-- a command without its opening parenthesis (`A = B X = 1)`) is rejected; `A X = 1)` is `name_alone_rejected` -/
theorem missing_lparen_rejected (t e c u : Tok) (r : List Tok) (he : e.kind = .equal) (hu : u.kind ≠ .lparen) :
    ∀ p, parseToks (t :: e :: c :: u :: r) ≠ .ok p := by
  intro p h
  obtain ⟨_, _, h1, _, _, ⟨_, _, _, _, hr, _, _, hl⟩ | ⟨_, _, hr, hl⟩⟩ := accepted_head h
  · cases h1; cases hr; exact hu hl
  · cases h1; cases hr; rw [he] at hl; cases hl

/-- a result name with `=` but no command name behind it (`A = (X = 1)`, `A = 3(…)`) is rejected -/
theorem missing_command_name_rejected (t e u : Tok) (r : List Tok) (he : e.kind = .equal) (hu : u.kind ≠ .id) :
    ∀ p, parseToks (t :: e :: u :: r) ≠ .ok p := by
  intro p h
  obtain ⟨_, _, h1, _, _, ⟨_, _, _, _, hr, _, hc, _⟩ | ⟨_, _, hr, hl⟩⟩ := accepted_head h
  · cases h1; cases hr; exact hu hc
  · cases h1; cases hr; rw [he] at hl; cases hl

/-- a name followed by neither `=` nor `(` is rejected -/
theorem name_alone_rejected (t u : Tok) (r : List Tok) (h1 : u.kind ≠ .equal) (h2 : u.kind ≠ .lparen) :
    ∀ p, parseToks (t :: u :: r) ≠ .ok p := by
  intro p h
  obtain ⟨_, _, e1, _, _, ⟨_, _, _, _, hr, hek, _, _⟩ | ⟨_, _, hr, hl⟩⟩ := accepted_head h
  · cases e1; cases hr; exact h1 hek
  · cases e1; cases hr; exact h2 hl

/-- **every accepted argument starts `NAME =`**; an argument without `=` is rejected -/
theorem argument_head {ts : List Tok} {a : ANode} {rest : List Tok} (h : argument ts = .ok (a, rest)) :
    ∃ n e r, ts = n :: e :: r ∧ n.kind = .id ∧ e.kind = .equal := by
  obtain ⟨n, e, r, _, rfl, _, hk, _, hk2, _⟩ := argument_ok h
  exact ⟨n, e, r, rfl, hk, hk2⟩

/-- **every argument of an accepted argument list is followed by `,` or `)`**, stated for the argument a successful call of the argument loop
starts with (each later argument starts the loop's next call): whatever `argument` consumed, the parser goes on only if the next token is a
comma or the closing parenthesis - two arguments in a row without a comma, or anything else after a value, is rejected -/
theorem argument_followed_by_separator (fuel : Nat) (ts : List Tok) (acc : List ANode) (as : List ANode) (rest : List Tok)
    (h : arguments.go fuel ts acc = .ok (as, rest)) :
    ∃ a r, argument ts = .ok (a, r) ∧ ∃ t r', r = t :: r' ∧ t.isErr = false ∧ (t.kind = .comma ∨ t.kind = .rparen) := by
  have sep : ∀ {r k}, peek r = .ok (some k) → (k = .comma ∨ k = .rparen) →
      ∃ t r', r = t :: r' ∧ t.isErr = false ∧ (t.kind = .comma ∨ t.kind = .rparen) :=
    fun hp hk => by obtain ⟨t, r', hr, he, rfl⟩ := peek_some hp; exact ⟨t, r', hr, he, hk⟩
  fun_induction arguments.go fuel ts acc with
  | case5 fuel ts acc a r harg hc => exact ⟨a, r, harg, sep hc (.inl rfl)⟩
  | case6 fuel ts acc a r harg hc => exact ⟨a, r, harg, sep hc (.inl rfl)⟩
  | case7 fuel ts acc a r harg hp => exact ⟨a, r, harg, sep hp (.inr rfl)⟩
  | _ => cases h

/-- **the first item of an accepted list is followed by `,` or `]`** (for every later item the same is read off `elements_ok`, Props/C10Reject): in
a list of plain values the parser goes on after an item only at a comma, and closes the list only at `]` - two items in a row are rejected -/
theorem list_item_followed_by_separator (fuel : Nat) (ts : List Tok) (v : EVal) (rest : List Tok)
    (h : listBody fuel ts = .ok (v, rest)) (hne : peek ts ≠ .ok (some .rbrack)) (hp : atPair ts = false) :
    ∃ f e r, expression f ts = .ok (e, r) ∧ ∃ t r', r = t :: r' ∧ t.isErr = false ∧ (t.kind = .comma ∨ t.kind = .rbrack) := by
  obtain ⟨f, _, ⟨hpk, _⟩ | ⟨_, rb, hel, hre, hrk⟩⟩ := listBody_ok h
  · exact absurd hpk hne
  · obtain ⟨f', _, ⟨hat, _⟩ | ⟨_, e, r, hex, ⟨_, _, _, hr⟩ | ⟨hc, _⟩⟩⟩ := elements_ok hel
    · rw [hp] at hat; cases hat
    · exact ⟨f', e, r, hex, rb, rest, hr.symm, hre, .inr hrk⟩
    · obtain ⟨t, r', hr, he, hk⟩ := peek_some hc
      exact ⟨f', e, r, hex, t, r', hr, he, .inl hk⟩

/-- non-vacuity: the head of `A = B(X = 1)` and of the EEMS 2.0 form `B(X = 1)`; `A = B(X = "a", Y = 2)` is accepted, without the comma it is a syntax error -/
example :
    let i (s : String) : Tok := ⟨.id, .str s, 1⟩
    let p (k : TokKind) : Tok := ⟨k, .none, 1⟩
    CommandHead [i "A", p .equal, i "B", p .lparen, i "X", p .equal, ⟨.int, .int 1, 1⟩, p .rparen] ∧
    CommandHead [i "B", p .lparen, i "X", p .equal, ⟨.int, .int 1, 1⟩, p .rparen] ∧
    isAccepted (parseToks [i "B", p .lparen, i "X", p .equal, ⟨.int, .int 1, 1⟩, p .rparen]) = true ∧
    isAccepted (parseToks [i "A", p .equal, i "B", p .lparen, i "X", p .equal, ⟨.string, .str "a", 1⟩, p .comma, i "Y", p .equal, ⟨.int, .int 2, 1⟩, p .rparen]) = true ∧
    isSyntaxError (parseToks [i "A", p .equal, i "B", p .lparen, i "X", p .equal, ⟨.string, .str "a", 1⟩, i "Y", p .equal, ⟨.int, .int 2, 1⟩, p .rparen]) = true ∧
    isAccepted (parseToks [i "A", p .equal, i "B", p .lparen, i "X", p .equal, p .lbrack, ⟨.string, .str "a", 1⟩, p .comma, ⟨.string, .str "b", 1⟩, p .rbrack, p .rparen]) = true ∧
    isSyntaxError (parseToks [i "A", p .equal, i "B", p .lparen, i "X", p .equal, p .lbrack, ⟨.string, .str "a", 1⟩, ⟨.string, .str "b", 1⟩, p .rbrack, p .rparen]) = true := by
  refine ⟨⟨_, _, rfl, rfl, rfl, .inl ⟨_, _, _, _, rfl, rfl, rfl, rfl⟩⟩, ⟨_, _, rfl, rfl, rfl, .inr ⟨_, _, rfl, rfl⟩⟩, by decide +kernel, by decide +kernel, by decide +kernel, by decide +kernel, by decide +kernel⟩

end MPilot.C10R
