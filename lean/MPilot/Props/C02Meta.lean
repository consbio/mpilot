/-
C02 — "... or on metadata attached to commands".

`sol_unique` compares two programs whose commands are *equal*.  `sol_unique_rel` and `runs_agree` (both in Props/C02.lean) compare up to a relation
`R` between commands under which the bodies behave alike (same reads, same computation).  Here `runs_agree` is instantiated with "equal except for the `Metadata` arguments"
(`SameButMetadata`) it gives `metadata_inert`: attaching, changing or removing metadata on any commands of a model changes no result -
provided the bodies do not look at that argument (`hsem`), which is a fact about the `execute` bodies established by the correspondence
(every real `execute` call is replayed on a model command that has no metadata field at all).
-/
import MPilot.Props.C02

namespace MPilot.C02
open MPilot.C01

variable {Val : Type}

/-- the two commands carry the same result name, are instances of the same declared command and have the same arguments apart from `Metadata` -/
def SameButMetadata (c c' : PCmd) : Prop :=
  c.resultName = c'.resultName ∧ c.decl.name = c'.decl.name ∧
    c.args.filter (fun a => a.name != "Metadata") = c'.args.filter (fun a => a.name != "Metadata")

/-- **C02 (metadata is inert).**  Two models whose commands correspond one to one and differ only in the metadata attached to them - added,
removed or changed, on any of the commands - compute the same result for every command, whenever both run (bodies that do not read the
`Metadata` argument: `hsem`). -/
theorem metadata_inert (sem : Sem Val) (p p' : Program) (r r' : String → Nat) (hr : Ranked sem p r) (hr' : Ranked sem p' r')
    (hsem : ∀ c c', SameButMetadata c c' → sem.pulls c = sem.pulls c' ∧ sem.compute c = sem.compute c')
    (hp : ∀ n c, p.find? n = some c → ∃ c', p'.find? n = some c' ∧ SameButMetadata c c')
    (st st' : St Val) (h : run sem p { memo := [], log := [] } = (st, none)) (h' : run sem p' { memo := [], log := [] } = (st', none)) :
    ∀ n v v', st.get? n = some v → st'.get? n = some v' → v = v' :=
  fun n => runs_agree sem p p' r r' hr hr' (fun _ => True) SameButMetadata hsem (fun n c _ hc => hp n c hc)
    (fun _ _ _ _ _ _ => trivial) h h' n trivial

/-- non-vacuity of the relation: the same command with and without a metadata tuple, and with another one -/
example :
    let d : CmdDecl := ⟨"Copy", "mpilot.libraries.eems.basic", [], none, false, false⟩
    let a : Arg := ⟨"InFieldName", .str "A", some 1⟩
    SameButMetadata ⟨"X", d, [a], some 1⟩ ⟨"X", d, [a, ⟨"Metadata", .dict [("Note", .str "n")], some 1⟩], some 1⟩ ∧
    SameButMetadata ⟨"X", d, [⟨"Metadata", .dict [("Note", .str "m")], some 2⟩, a], some 1⟩ ⟨"X", d, [a, ⟨"Metadata", .dict [], some 1⟩], some 1⟩ := by
  refine ⟨⟨rfl, rfl, ?_⟩, ⟨rfl, rfl, ?_⟩⟩ <;> simp [List.filter]

end MPilot.C02
