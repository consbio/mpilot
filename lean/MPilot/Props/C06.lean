/-
C06 — fuzzy-logic operators compute the EEMS definitions and obey their algebra.
-/
import MPilot.Lemmas.Perm
import MPilot.Lemmas.Stats
import MPilot.Lemmas.List
import Mathlib.Data.List.Pairwise

namespace MPilot.C06

/-! ### what each operator leaves in a cell -/

theorem fuzzyFold_cell (g : Rat → Rat → Rat) (a : Arr) (t : List Arr) (r : Arr) (i : Nat)
    (h : fuzzyClamp (naryFold (.arg "InFieldNames") g (a :: t)) = .ok r) (hi : ∀ x ∈ a :: t, i < x.cells.length) :
    CellAt r i ((column (a :: t) i).any (·.mask)) (clampHiLo (-1) 1 (fold1 g ((column (a :: t) i).map (·.val)))) := by
  obtain ⟨q, hq, rfl⟩ := map_ok h
  exact (naryFold_cell _ g a t q i hq hi).insure _ _

theorem column_present {xs : List Arr} {i : Nat} (hi : ∀ x ∈ xs, i < x.cells.length) {P : Rat → Prop}
    (hr : ∀ x ∈ xs, ∀ c ∈ x.cells, c.mask = false → P c.val) (hnone : (column xs i).any (·.mask) = false) :
    ∀ c ∈ column xs i, c.mask = false ∧ P c.val := by
  intro c hc
  have hcm : c.mask = false := by simpa using List.any_eq_false.mp hnone c hc
  obtain ⟨x, hx, rfl⟩ := List.mem_map.mp hc
  exact ⟨hcm, hr x hx _ (List.getElem_eq_getD (h := hi x hx) default ▸ List.getElem_mem _) hcm⟩

/-- a fold that returns one of its arguments (max, min) stays among the values of the column: where all of them are present fuzzy values, the
final clamp changes nothing (what lies beneath missing cells does not matter) -/
theorem clamp_fold1_inrange {g : Rat → Rat → Rat} (hg : ∀ a b, g a b = a ∨ g a b = b) (a : Arr) (t : List Arr) (i : Nat)
    (hi : ∀ x ∈ a :: t, i < x.cells.length) (hr : ∀ x ∈ a :: t, ∀ c ∈ x.cells, c.mask = false → -1 ≤ c.val ∧ c.val ≤ 1)
    (hnone : (column (a :: t) i).any (·.mask) = false) :
    clampHiLo (-1) 1 (fold1 g ((column (a :: t) i).map (·.val))) = fold1 g ((column (a :: t) i).map (·.val)) := by
  obtain ⟨c, hc, e⟩ := List.mem_map.mp (fold1_mem hg (column_vals_ne_nil a t i))
  obtain ⟨-, h1, h2⟩ := column_present (P := fun v => -1 ≤ v ∧ v ≤ 1) hi hr hnone c hc
  rw [← e]; exact clampHiLo_of_mem h1 h2

/-- **FuzzyOr**: cell `i` is missing iff some input is missing there and otherwise holds the maximum of the column (an element of the
column that bounds all others): on inputs whose stored values all lie in [-1, 1] the final clamp changes nothing.  (`hr` as stated asks this of
the values beneath missing cells too; the proof reads it at present cells only, and `or_value` (Props/C06DeMorgan.lean) gives the clamped
maximum without any hypothesis.) -/
theorem or_cell (sqrt : Rat → Rat) (a : Arr) (t : List Arr) (r : Arr) (i : Nat)
    (h : exec sqrt .fuzzyOr (a :: t) = .ok r) (hi : ∀ x ∈ a :: t, i < x.cells.length)
    (hr : ∀ x ∈ a :: t, ∀ c ∈ x.cells, -1 ≤ c.val ∧ c.val ≤ 1) :
    ∃ c, r.cells[i]? = some c ∧ c.mask = (column (a :: t) i).any (·.mask) ∧
      (c.mask = false → c.val ∈ (column (a :: t) i).map (·.val) ∧ ∀ y ∈ (column (a :: t) i).map (·.val), y ≤ c.val) := by
  -- `exec sqrt .fuzzyOr xs` is `fuzzyClamp (naryFold ..)` by computation (`.fuzzyAnd` likewise), so `h` is what `fuzzyFold_cell` asks for
  refine (fuzzyFold_cell ratMax a t r i h hi).imp (P := fun v => v ∈ _ ∧ ∀ y ∈ _, y ≤ v) fun hm => ?_
  rw [clamp_fold1_inrange ratMax_choice a t i hi (fun x hx c hc _ => hr x hx c hc) hm]
  exact ⟨fold1_max_mem (column_vals_ne_nil a t i), fold1_max_ge _⟩

/-- **FuzzyAnd**: the minimum of the column (mirror image of `or_cell`, `hr` included) -/
theorem and_cell (sqrt : Rat → Rat) (a : Arr) (t : List Arr) (r : Arr) (i : Nat)
    (h : exec sqrt .fuzzyAnd (a :: t) = .ok r) (hi : ∀ x ∈ a :: t, i < x.cells.length)
    (hr : ∀ x ∈ a :: t, ∀ c ∈ x.cells, -1 ≤ c.val ∧ c.val ≤ 1) :
    ∃ c, r.cells[i]? = some c ∧ c.mask = (column (a :: t) i).any (·.mask) ∧
      (c.mask = false → c.val ∈ (column (a :: t) i).map (·.val) ∧ ∀ y ∈ (column (a :: t) i).map (·.val), c.val ≤ y) := by
  refine (fuzzyFold_cell ratMin a t r i h hi).imp (P := fun v => v ∈ _ ∧ ∀ y ∈ _, v ≤ y) fun hm => ?_
  rw [clamp_fold1_inrange ratMin_choice a t i hi (fun x hx c hc _ => hr x hx c hc) hm]
  exact ⟨fold1_min_mem (column_vals_ne_nil a t i), fold1_min_le _⟩

/-- **FuzzyUnion**: each cell is missing iff some input is missing there, and otherwise holds the clamped arithmetic mean of the column
(the clamp is the identity when the inputs are fuzzy values: see `mean_in_range`). -/
theorem union_cell (sqrt : Rat → Rat) (a : Arr) (t : List Arr) (r : Arr) (i : Nat)
    (h : exec sqrt .fuzzyUnion (a :: t) = .ok r) (hi : ∀ x ∈ a :: t, i < x.cells.length) :
    ∃ c, r.cells[i]? = some c ∧ c.mask = (column (a :: t) i).any (·.mask) ∧
      (c.mask = false → c.val = clampHiLo (-1) 1 (((column (a :: t) i).map (·.val)).sum / ((a :: t).length : Nat))) := by
  dsimp only [exec] at h
  obtain ⟨_, _, h⟩ := bind_ok h
  cases h
  exact (meanArr_cell a t i hi).insure _ _

/-- **FuzzyWeightedUnion**: each cell is missing iff some input is missing there (or the weights sum to zero), and otherwise holds the
clamped weighted mean Σ wⱼ·xⱼ / Σ wⱼ of the column. -/
theorem weightedUnion_cell (sqrt : Rat → Rat) (w : Num) (wr : List Num) (a : Arr) (t : List Arr) (r : Arr) (i : Nat)
    (h : exec sqrt (.fuzzyWeightedUnion (w :: wr)) (a :: t) = .ok r) (hi : ∀ x ∈ a :: t, i < x.cells.length) :
    ∃ c, r.cells[i]? = some c ∧ c.mask = ((column (a :: t) i).any (·.mask) || (sumNums (w :: wr) == 0)) ∧
      (c.mask = false → c.val = clampHiLo (-1) 1
        ((List.zipWith (fun (w : Num) (c : Cell) => c.val * w.val) (w :: wr) (column (a :: t) i)).sum / sumNums (w :: wr))) := by
  dsimp only [exec] at h
  rw [eMp, ite_error_eq_ok] at h
  obtain ⟨hlen, h⟩ := h
  obtain ⟨_, _, h⟩ := bind_ok h
  cases h
  exact ((weightedAcc_cellAt w wr a t .float i (Eq.symm (by simpa using hlen)) hi).divSc _).insure _ _

/-- **FuzzyXOr / FuzzySelectedUnion**: a cell of the stacked computation is missing exactly when some input is missing there -/
theorem stackCell_mask (xs : List Arr) (f : List Rat → Cell) (hf : ∀ l, (f l).mask = false) (i : Nat) :
    (stackCell xs f i).mask = (column xs i).any (·.mask) := by
  unfold stackCell
  cases (column xs i).any (·.mask) <;> [exact hf _; rfl]

theorem xorCell_unmasked (l : List Rat) : (xorCell l).mask = false := by
  unfold xorCell; simp only; split <;> rfl

theorem selCell_unmasked (t : Bool) (k : Nat) (l : List Rat) : (selCell t k l).mask = false := rfl

/-- the mean of values in [-1, 1] lies in [-1, 1]: on fuzzy inputs FuzzyUnion's clamp changes nothing -/
theorem mean_in_range (x : Rat) (l : List Rat) (h : ∀ y ∈ x :: l, -1 ≤ y ∧ y ≤ 1) :
    -1 ≤ (x :: l).sum / ((x :: l).length : Nat) ∧ (x :: l).sum / ((x :: l).length : Nat) ≤ 1 :=
  mean_between (x :: l) (by simp) (-1) 1 (fun y hy => (h y hy).1) (fun y hy => (h y hy).2)

/-- the field `FuzzyNot` returns -/
def notArr (x : Arr) : Arr := (x.mapCells (Cell.sc (fun v => -v))).insure (-1) 1

theorem exec_fuzzyNot (sqrt : Rat → Rat) (a : Arr) : exec sqrt .fuzzyNot [a] = .ok (notArr a) := rfl

theorem vis_not (a : Arr) : (notArr a).vis = a.vis.map (Option.map fun v => clampHiLo (-1) 1 (-v)) := by
  rw [notArr, Arr.vis_insure, Arr.vis_mapCells (Cell.sc_vis _), List.map_map, Option.map_comp_map]; rfl

theorem clamp_neg {v : Rat} (h : -1 ≤ v ∧ v ≤ 1) : clampHiLo (-1) 1 (-v) = -v :=
  clampHiLo_of_mem (neg_le_neg h.2) (neg_le.mp h.1)

/-- **FuzzyNot** negates every present cell and keeps the missing ones (values in range stay in range: no clamping). -/
theorem not_cells (sqrt : Rat → Rat) (a r : Arr) (h : exec sqrt .fuzzyNot [a] = .ok r)
    (hr : ∀ c ∈ a.cells, -1 ≤ c.val ∧ c.val ≤ 1) :
    r.shape = a.shape ∧ r.vis = a.cells.map (fun c => if c.mask then none else some (-c.val)) := by
  rw [exec_fuzzyNot] at h; cases h
  exact ⟨rfl, (vis_not a).trans ((Arr.vis_map_congr fun c hc _ => clamp_neg (hr c hc)).trans (Arr.vis_map _ a))⟩

/-- **Not is an involution** on fuzzy arrays (visibly). -/
theorem not_involutive (sqrt : Rat → Rat) (a r1 r2 : Arr) (h1 : exec sqrt .fuzzyNot [a] = .ok r1)
    (h2 : exec sqrt .fuzzyNot [r1] = .ok r2) (hr : ∀ c ∈ a.cells, -1 ≤ c.val ∧ c.val ≤ 1) :
    r2.vis = a.vis ∧ r2.shape = a.shape := by
  rw [exec_fuzzyNot] at h1 h2; cases h1; cases h2
  refine ⟨?_, rfl⟩
  rw [vis_not, vis_not, List.map_map, Option.map_comp_map]
  refine Arr.vis_map_self fun c hc _ => ?_
  rw [Function.comp, clamp_neg (hr c hc), neg_neg, clampHiLo_of_mem (hr c hc).1 (hr c hc).2]

/-! ### algebra at the level of a column of fuzzy values -/

/-- **De Morgan**: negation exchanges max and min -/
theorem neg_max_eq_min_neg (x : Rat) (l : List Rat) :
    -(fold1 ratMax (x :: l)) = fold1 ratMin ((x :: l).map (fun v => -v)) :=
  fold1_hom (fun v => -v) (fun a b => by rw [ratMax_eq_max, ratMin_eq_min]; exact neg_sup a b) x l

theorem neg_min_eq_max_neg (x : Rat) (l : List Rat) :
    -(fold1 ratMin (x :: l)) = fold1 ratMax ((x :: l).map (fun v => -v)) :=
  fold1_hom (fun v => -v) (fun a b => by rw [ratMax_eq_max, ratMin_eq_min]; exact neg_inf a b) x l

/-- **And ≤ Union ≤ Or** for every non-empty column -/
theorem and_le_union_le_or (x : Rat) (l : List Rat) :
    fold1 ratMin (x :: l) ≤ (x :: l).sum / ((x :: l).length : Rat) ∧
    (x :: l).sum / ((x :: l).length : Rat) ≤ fold1 ratMax (x :: l) :=
  mean_between (x :: l) (by simp) _ _ (fold1_min_le _) (fold1_max_ge _)

/-! ### exclusive or -/

theorem sub_mul_between {a d w : Rat} (hd : 0 ≤ d) (h0 : 0 ≤ w) (h1 : w ≤ 1) : a - d ≤ a - d * w ∧ a - d * w ≤ a :=
  ⟨sub_le_sub_left (mul_le_of_le_one_right hd h1) a, sub_le_self a (mul_nonneg hd h0)⟩

/-- the EEMS exclusive-or is `t1 - (t1 - t2) * w` with the weight `w = (t2 + 1) / (t1 + 1)` in [0, 1]: it lies between the two truest values -/
theorem xor_between (t1 t2 : Rat) (h2 : -1 ≤ t2) (h12 : t2 ≤ t1) : t2 ≤ (xorCell [t2, t1]).val ∧ (xorCell [t2, t1]).val ≤ t1 := by
  -- `xorCell` computed on the two-element column: `t1` is its last value, `t2` the one before
  show t2 ≤ (if t1 ≤ -1 then (⟨-1, false⟩ : Cell) else ⟨t1 - (t1 - t2) * (t2 - (-1)) / (t1 - (-1)), false⟩).val ∧
    (if t1 ≤ -1 then (⟨-1, false⟩ : Cell) else ⟨t1 - (t1 - t2) * (t2 - (-1)) / (t1 - (-1)), false⟩).val ≤ t1
  split
  · rename_i h
    exact ⟨h12.trans h, h2.trans h12⟩
  · rename_i h
    have hp : 0 < t1 - (-1) := sub_pos.mpr (not_le.mp h)
    have := sub_mul_between (a := t1) (sub_nonneg.mpr h12) (div_nonneg (sub_nonneg.mpr h2) hp.le)
      ((div_le_iff₀ hp).mpr ((sub_le_sub_right h12 _).trans_eq (one_mul _).symm))
    rwa [sub_sub_cancel, ← mul_div_assoc] at this

/-- the EEMS exclusive-or of the two truest values stays within the fuzzy range -/
theorem xor_range (t1 t2 : Rat) (h1 : t1 ≤ 1) (h2 : -1 ≤ t2) (h12 : t2 ≤ t1) :
    -1 ≤ (xorCell [t2, t1]).val ∧ (xorCell [t2, t1]).val ≤ 1 :=
  ⟨h2.trans (xor_between t1 t2 h2 h12).1, (xor_between t1 t2 h2 h12).2.trans h1⟩

/-! ### selected union: k = 1 is Or / And, k = all is Union -/

theorem sel_all_is_mean (truest : Bool) (asc : List Rat) :
    (selCell truest asc.length asc).val = asc.sum / (asc.length : Rat) := by
  cases truest <;> simp [selCell, sumL_eq_sum]

/-- **k = 1, truest**: the selected union of the single truest value of a column is its greatest value - what `FuzzyOr` computes (`or_cell`) -/
theorem sel_truest_one (l : List Rat) (hne : l ≠ []) :
    (selCell true 1 (sortRat l)).val ∈ l ∧ ∀ x ∈ l, x ≤ (selCell true 1 (sortRat l)).val := by
  have hs := sortRat_ne_nil hne
  have hv : (selCell true 1 (sortRat l)).val = (sortRat l).getLast hs := by
    simp [selCell, List.drop_length_sub_one hs, sumL]
  rw [hv]
  exact ⟨sortRat_mem.mp (List.getLast_mem hs), fun x hx => (sortRat_sorted l).rel_getLast (sortRat_mem.mpr hx)⟩

/-- **k = 1, falsest**: the selected union of the single falsest value of a column is its least value - what `FuzzyAnd` computes (`and_cell`) -/
theorem sel_falsest_one (l : List Rat) (hne : l ≠ []) :
    (selCell false 1 (sortRat l)).val ∈ l ∧ ∀ x ∈ l, (selCell false 1 (sortRat l)).val ≤ x := by
  obtain ⟨a, t, hat⟩ := List.exists_cons_of_ne_nil (sortRat_ne_nil hne)
  have hv : (selCell false 1 (sortRat l)).val = a := by rw [hat]; simp [selCell, sumL]
  have hsorted : (a :: t).Pairwise (· ≤ ·) := hat ▸ sortRat_sorted l
  have hmem : ∀ x, x ∈ l ↔ x ∈ a :: t := fun x => hat ▸ sortRat_mem.symm
  rw [hv]
  exact ⟨(hmem a).mpr List.mem_cons_self, fun x hx =>
    (List.mem_cons.mp ((hmem x).mp hx)).elim (fun e => e ▸ le_rfl) (List.rel_of_pairwise_cons hsorted)⟩

/-! ### every input order gives the same outcome -/

theorem or_perm (sqrt : Rat → Rat) {xs xs' : List Arr} (h : xs.Perm xs') (n : Nat) (hn : ∀ x ∈ xs, x.cells.length = n) :
    ExceptR (exec sqrt .fuzzyOr xs) (exec sqrt .fuzzyOr xs') :=
  fuzzyClamp_R (naryFold_perm (.arg "InFieldNames") ratMax ratMax_comm ratMax_assoc h n hn)

theorem and_perm (sqrt : Rat → Rat) {xs xs' : List Arr} (h : xs.Perm xs') (n : Nat) (hn : ∀ x ∈ xs, x.cells.length = n) :
    ExceptR (exec sqrt .fuzzyAnd xs) (exec sqrt .fuzzyAnd xs') :=
  fuzzyClamp_R (naryFold_perm (.arg "InFieldNames") ratMin ratMin_comm ratMin_assoc h n hn)

theorem xor_perm (sqrt : Rat → Rat) {xs xs' : List Arr} (h : xs.Perm xs') (n : Nat) (hn : ∀ x ∈ xs, x.cells.length = n) :
    ExceptR (exec sqrt .fuzzyXOr xs) (exec sqrt .fuzzyXOr xs') := by
  dsimp only [exec]
  rw [← h.length_eq]
  exact validated_perm _ h fun hne hs => .ite _ (.eRaw _) (fuzzyClamp_R (ExceptR.ok (stackMap_perm _ h hne n hn hs ▸ ArrR.refl _)))

/-- the four admissibility guards of the body see the inputs only through their number -/
theorem selectedUnion_perm (sqrt : Rat → Rat) (sel : String) (k : Num) {xs xs' : List Arr} (h : xs.Perm xs') (n : Nat)
    (hn : ∀ x ∈ xs, x.cells.length = n) :
    ExceptR (exec sqrt (.fuzzySelectedUnion sel k) xs) (exec sqrt (.fuzzySelectedUnion sel k) xs') := by
  dsimp only [exec]
  rw [← h.length_eq]
  exact validated_perm _ h fun hne hs => .ite _ (.eMp _ _) (.ite _ (.eMp _ _) (.ite _ (.eRaw _) (.ite _ (.eRaw _)
    (fuzzyClamp_R (ExceptR.ok (stackMap_perm _ h hne n hn hs ▸ ArrR.refl _))))))

/-- `FuzzyUnion`: every input order gives the same outcome -/
theorem union_perm (sqrt : Rat → Rat) {xs xs' : List Arr} (h : xs.Perm xs') (n : Nat) (hn : ∀ x ∈ xs, x.cells.length = n) :
    ExceptR (exec sqrt .fuzzyUnion xs) (exec sqrt .fuzzyUnion xs') := by
  dsimp only [exec]
  rw [← h.length_eq]
  refine validated_perm _ h fun hne hs => ?_
  obtain ⟨a, t, a', t', rfl, rfl⟩ := exists_cons_cons_of_perm h hne
  exact fuzzyClamp_R (ExceptR.ok (mapCells_R (fun _ _ => divSc_R _) (foldArr_perm (· + ·) add_comm add_assoc .float h n hn hs)))

/-- **FuzzyWeightedUnion is independent of the order of its inputs** (weights permuted alongside). -/
theorem weightedUnion_perm (sqrt : Rat → Rat) {ws ws' : List Num} {xs xs' : List Arr} (hl : ws.length = xs.length) (hl' : ws'.length = xs'.length)
    (h : (ws.zip xs).Perm (ws'.zip xs')) (n : Nat) (hn : ∀ x ∈ xs, x.cells.length = n) :
    ExceptR (exec sqrt (.fuzzyWeightedUnion ws) xs) (exec sqrt (.fuzzyWeightedUnion ws') xs') := by
  obtain ⟨hw, hx⟩ := perm_of_zip_perm hl hl' h
  dsimp only [exec]
  simp only [hl, hl', bne_self_eq_false, Bool.false_eq_true, if_false]
  rw [← sumNums_perm hw]
  exact validated_perm _ hx fun hne hs => fuzzyClamp_R (ExceptR.ok (mapCells_R (fun _ _ => divSc_R _)
    (weightedAcc_perm hl hl' h n hn hne hs _)))

/-! ### an inadmissible `NumberToConsider` is refused with the error the code raises -/

theorem selectedUnion_k_too_large (sqrt : Rat → Rat) (sel : String) (k : Num) (xs : List Arr)
    (hv : validateShapes (.arg "InFieldNames") xs = .ok ()) (hk : (xs.length : Rat) < k.val) :
    exec sqrt (.fuzzySelectedUnion sel k) xs = eMp "InvalidNumberToConsider" (.arg "NumberToConsider") := by
  dsimp only [exec]
  rw [hv]
  -- `.ok () >>= f` computes to `f ()`, which opens with the guard on `k`
  exact if_pos hk

/-- non-vacuity: Or of two concrete fuzzy arrays with a missing cell -/
example : exec (fun x => x) .fuzzyOr [⟨.float, [2], [⟨1/2, false⟩, ⟨0, true⟩]⟩, ⟨.float, [2], [⟨1/4, false⟩, ⟨1, false⟩]⟩]
    = .ok ⟨.float, [2], [⟨1/2, false⟩, ⟨fillValue, true⟩]⟩ := by decide +kernel

end MPilot.C06
