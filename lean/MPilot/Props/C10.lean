/-
C10 — parsing delivers exactly what was written, regardless of layout.  Two layers that compose to `parse_text`: a text whose tokens render
program `cs` parses to `cs` (version 3).

* characters → tokens (`Text`, `lexS_text`; lemmas in Lemmas/Lex, Lemmas/LexString): layout (blanks, tabs, line feeds, CR LF, comments) produces
  no token and advances the line counter by exactly its line breaks; an identifier, an integer, a decimal with or without exponent, unquoted
  text that starts with a character no other token starts with, a quoted string of any content - as the serializer escapes it
  (C15.quote_roundtrip) or as a user writes it, raw line breaks included and counted - and each punctuation mark is read as that one token on
  the line it starts on; the lexer's recursion bound never loses a token (`Lex.lexAll_fuel`).
* tokens → program (`RVal` .. `RProg`, `program_renders`; the parser's step equations in Lemmas/Parse): any token sequence that renders a
  program - commands, named arguments, integers, decimals, quoted strings, bare identifiers, one `PLAIN_STRING` token or an identifier followed
  at once by one, lists nested to any depth, tuples with quoted or identifier keys and quoted, identifier, integer or decimal values, trailing
  commas or not, tokens on any lines - is read back as exactly that program; which line each node carries is said at `program_renders`.

Not covered by these theorems (decided by the correspondence of this executable parser with the real one and by the round-trip oracle on the
implementation): unquoted strings holding digits or several words (multi-token values; known finding F10 lives there), unquoted tuple keys
that are no identifiers, the EEMS 2.0 command form, and the rejection of malformed text other than the classes of Props/C10Reject and
Props/C10Shape.
-/
import MPilot.Lemmas.Parse
import MPilot.Props.C15

namespace MPilot.C10
open MPilot.Parse

/-- starts with `,`, `]` or `)`: what may follow a value -/
def IsTerm (ts : List Tok) : Prop := ∃ t r, ts = t :: r ∧ (t.kind = .comma ∨ t.kind = .rbrack ∨ t.kind = .rparen)

/-- a tuple key: a `STRING` token if quoted, else an `ID` -/
def keyTok (quoted : Bool) (k : String) (l : Nat) : Tok := ⟨if quoted then .string else .id, .str k, l⟩

/-- `key : value` with a quoted or bare-identifier key; the value a quoted string, a bare identifier, an integer or a decimal; the value node
carries the key's line -/
inductive RPair : List Tok → String × ENode → Prop
  | str (q : Bool) (k v : String) (lk lc lv : Nat) : RPair [keyTok q k lk, ⟨.colon, .none, lc⟩, ⟨.string, .str v, lv⟩] (k, .mk (.str v) lk)
  | int (q : Bool) (k : String) (n : Int) (lk lc lv : Nat) : RPair [keyTok q k lk, ⟨.colon, .none, lc⟩, ⟨.int, .int n, lv⟩] (k, .mk (.int n) lk)
  | flt (q : Bool) (k : String) (x : Rat) (lk lc lv : Nat) : RPair [keyTok q k lk, ⟨.colon, .none, lc⟩, ⟨.float, .float x, lv⟩] (k, .mk (.float x) lk)
  | bare (q : Bool) (k v : String) (lk lc lv : Nat) : RPair [keyTok q k lk, ⟨.colon, .none, lc⟩, ⟨.id, .str v, lv⟩] (k, .mk (.str v) lk)

/-- one or more pairs separated by commas, optionally followed by a trailing comma; the map is built from the last pair backwards
(`dictSet`: a repeated key keeps the position of its later occurrence and the value of its earlier one) -/
inductive RPairs : List Tok → List (String × ENode) → Prop
  | one (ts : List Tok) (p : String × ENode) : RPair ts p → RPairs ts [p]
  | oneComma (ts : List Tok) (p : String × ENode) (lc : Nat) : RPair ts p → RPairs (ts ++ [⟨.comma, .none, lc⟩]) [p]
  | cons (ts : List Tok) (k : String) (v : ENode) (lc : Nat) (ts' : List Tok) (kv : List (String × ENode)) :
      RPair ts (k, v) → RPairs ts' kv → RPairs (ts ++ ⟨.comma, .none, lc⟩ :: ts') (dictSet kv k v)

mutual
  /-- `RVal ts e`: the token sequence `ts` is a rendering of the value whose parse-tree node is `e` -/
  inductive RVal : List Tok → ENode → Prop
    | int (n : Int) (l : Nat) : RVal [⟨.int, .int n, l⟩] (.mk (.int n) l)
    -- a `FLOAT` token holding `.negZero` (the text `-0.0`) renders no value
    | float (q : Rat) (l : Nat) : RVal [⟨.float, .float q, l⟩] (.mk (.float q) l)
    | qstr (s : String) (l : Nat) : RVal [⟨.string, .str s, l⟩] (.mk (.str s) l)
    | bare (s : String) (l : Nat) : RVal [⟨.id, .str s, l⟩] (.mk (.str s) l)
    /-- unquoted text that is no identifier: one `PLAIN_STRING` token (`%abc`, `/p/q.txt`, `☃`), or an identifier run followed at once by one (`x.y`, `a-b`, `a/b`).
    That `.y` and `-b` are lexed as `PLAIN_STRING` tokens is shown only by the example under `spells_plain`: `spells_plain` itself needs a first character
    at which no number can start (`PlainStart`) -/
    | plain (s : String) (l : Nat) : RVal [⟨.plain, .str s, l⟩] (.mk (.str s) l)
    | idPlain (a b : String) (l l2 : Nat) : RVal [⟨.id, .str a, l⟩, ⟨.plain, .str b, l2⟩] (.mk (.str (a ++ b)) l)
    | nil (l l' : Nat) : RVal [⟨.lbrack, .none, l⟩, ⟨.rbrack, .none, l'⟩] (.mk (.list []) l)
    | list (l l' : Nat) (ts : List Tok) (es : List ENode) : RElems ts es →
        RVal (⟨.lbrack, .none, l⟩ :: ts ++ [⟨.rbrack, .none, l'⟩]) (.mk (.list es) l)
    | dict (l l' : Nat) (ts : List Tok) (kv : List (String × ENode)) : RPairs ts kv →
        RVal (⟨.lbrack, .none, l⟩ :: ts ++ [⟨.rbrack, .none, l'⟩]) (.mk (.dict kv) l)
  /-- one or more elements separated by commas, optionally followed by a trailing comma -/
  inductive RElems : List Tok → List ENode → Prop
    | one (ts : List Tok) (e : ENode) : RVal ts e → RElems ts [e]
    | oneComma (ts : List Tok) (e : ENode) (lc : Nat) : RVal ts e → RElems (ts ++ [⟨.comma, .none, lc⟩]) [e]
    | cons (ts : List Tok) (e : ENode) (lc : Nat) (ts' : List Tok) (es : List ENode) :
        RVal ts e → RElems ts' es → RElems (ts ++ ⟨.comma, .none, lc⟩ :: ts') (e :: es)
end

theorem RVal.head {ts : List Tok} {e : ENode} (h : RVal ts e) : ∃ t r, ts = t :: r ∧ t.isErr = false ∧ t.kind ≠ .rbrack := by
  cases h <;> exact ⟨_, _, rfl, rfl, nofun⟩

theorem RElems.head {ts : List Tok} {es : List ENode} (h : RElems ts es) : ∃ t r, ts = t :: r ∧ t.isErr = false ∧ t.kind ≠ .rbrack := by
  cases h with
  | one ts e hv => exact hv.head
  | oneComma ts e lc hv => obtain ⟨t, r, rfl, h⟩ := hv.head; exact ⟨t, _, rfl, h⟩
  | cons ts e lc ts' es hv _ => obtain ⟨t, r, rfl, h⟩ := hv.head; exact ⟨t, _, rfl, h⟩

theorem RVal.atPair_false {ts : List Tok} {e : ENode} (h : RVal ts e) (rest : List Tok) (hr : IsTerm rest) : atPair (ts ++ rest) = false := by
  obtain ⟨t, r, rfl, ht⟩ := hr
  obtain ⟨_, hps, hcol⟩ := Ends.of_terminator ht
  have word : ∀ (run : List Tok) (l : Tok), (∀ x ∈ run, isPsStart x.kind = true) → isPsStart l.kind = true → atPair (run ++ l :: t :: r) = false :=
    fun run l hrun hl => by rw [atPair_run run r hrun hl hps, hcol, Bool.and_false]
  cases h with
  | int n l => exact word [] _ (by simp) rfl
  | float q l => exact word [] _ (by simp) rfl
  | qstr s l => exact (atPair_string r rfl).trans hcol
  | bare s l => exact word [] _ (by simp) rfl
  | plain s l => exact word [] _ (by simp) rfl
  | idPlain a b l l2 => exact word [_] _ (by simp [isPsStart]) rfl
  | nil l l' => exact atPair_other _ nofun rfl
  | list l l' ts es he => exact atPair_other _ nofun rfl
  | dict l l' ts kv he => exact atPair_other _ nofun rfl

/-- starts with `]` -/
def IsClose (ts : List Tok) : Prop := ∃ t r, ts = t :: r ∧ t.kind = .rbrack

theorem IsClose.term {ts : List Tok} (h : IsClose ts) : IsTerm ts := by
  obtain ⟨t, r, rfl, hk⟩ := h; exact ⟨t, r, rfl, Or.inr (Or.inl hk)⟩

theorem tuplePair_renders {ts : List Tok} {p : String × ENode} (h : RPair ts p) (rest : List Tok) (hr : IsTerm rest) :
    tuplePair (ts ++ rest) = .ok (p, rest) := by
  obtain ⟨t, r, rfl, ht⟩ := hr
  have hu := Ends.of_terminator ht
  have key : ∀ (q : Bool) (k : String) (lk lc : Nat) (u : Tok) (r1 : List Tok),
      tuplePair (keyTok q k lk :: ⟨.colon, .none, lc⟩ :: u :: r1) = pairValue k lk u r1 := by
    intro q k lk lc u r1
    cases q
    · exact tuplePair_unquoted rfl rfl (plainString_one _ (.inl rfl) rfl rfl rfl) rfl
    · exact tuplePair_quoted r1 rfl rfl rfl
  cases h with
  | str q k v lk lc lv => exact (key ..).trans (pairValue_string k lk _ rfl)
  | int q k n lk lc lv => exact (key ..).trans (pairValue_number k lk r (.inl rfl) hu)
  | flt q k x lk lc lv => exact (key ..).trans (pairValue_number k lk r (.inr rfl) hu)
  | bare q k v lk lc lv => exact (key ..).trans (pairValue_unquoted k lk (.inl rfl) (plainString_one r (.inl rfl) rfl hu.noErr hu.noWord) hu)

theorem RPair.shape {ts : List Tok} {p : String × ENode} (h : RPair ts p) :
    ∃ q k lk u r, ts = keyTok q k lk :: u :: r ∧ u.kind = .colon := by
  cases h <;> exact ⟨_, _, _, _, _, rfl, rfl⟩

theorem RPairs.shape {ts : List Tok} {kv : List (String × ENode)} (h : RPairs ts kv) :
    ∃ q k lk u r, ts = keyTok q k lk :: u :: r ∧ u.kind = .colon := by
  cases h with
  | one ts p hp => exact hp.shape
  | oneComma ts p lc hp => obtain ⟨q, k, lk, u, r, rfl, h3⟩ := hp.shape; exact ⟨q, k, lk, u, _, rfl, h3⟩
  | cons ts k v lc ts' kv hp _ => obtain ⟨q, k', lk, u, r, rfl, h3⟩ := hp.shape; exact ⟨q, k', lk, u, _, rfl, h3⟩

theorem RPairs.head {ts : List Tok} {kv : List (String × ENode)} (h : RPairs ts kv) : ∃ t r, ts = t :: r ∧ t.isErr = false ∧ t.kind ≠ .rbrack := by
  obtain ⟨q, k, lk, u, r, rfl, _⟩ := h.shape
  exact ⟨_, _, rfl, by cases q <;> rfl, by cases q <;> exact nofun⟩

theorem RPairs.atPair_true {ts : List Tok} {kv : List (String × ENode)} (h : RPairs ts kv) (rest : List Tok) : atPair (ts ++ rest) = true := by
  obtain ⟨q, k, lk, u, r, rfl, h3⟩ := h.shape
  cases q
  · exact (atPair_run [] _ (by simp) rfl (h3 ▸ rfl)).trans (by rw [h3]; rfl)
  · exact (atPair_string _ rfl).trans (by rw [h3]; rfl)

theorem RPair.len {ts : List Tok} {p : String × ENode} (h : RPair ts p) : ts.length = 3 := by cases h <;> rfl

theorem tuplePairs_renders {ts : List Tok} {kv : List (String × ENode)} (h : RPairs ts kv) :
    ∀ (rest : List Tok) (fuel : Nat), IsClose rest → ts.length < fuel → tuplePairs fuel (ts ++ rest) = .ok (kv, rest) := by
  induction h with
  | one ts p hp =>
    intro rest fuel hr hf
    obtain ⟨f, rfl⟩ := Nat.exists_eq_add_one_of_ne_zero (Nat.ne_zero_of_lt hf)
    have hp' := tuplePair_renders hp rest hr.term
    obtain ⟨t, r, rfl, hk⟩ := hr
    exact tuplePairs_end hp' (isErr_false_of_kind hk rfl) (by rw [hk]; decide)
  | oneComma ts p lc hp =>
    intro rest fuel hr hf
    obtain ⟨f, rfl⟩ := Nat.exists_eq_add_one_of_ne_zero (Nat.ne_zero_of_lt hf)
    have hp' := tuplePair_renders hp (⟨.comma, .none, lc⟩ :: rest) ⟨_, _, rfl, .inl rfl⟩
    obtain ⟨t, r, rfl, hk⟩ := hr
    rw [List.append_assoc]
    exact tuplePairs_comma_end hp' rfl hk
  | cons ts k v lc ts' kv hp hps ih =>
    intro rest fuel hr hf
    obtain ⟨f, rfl⟩ := Nat.exists_eq_add_one_of_ne_zero (Nat.ne_zero_of_lt hf)
    have hp' := tuplePair_renders hp (⟨.comma, .none, lc⟩ :: (ts' ++ rest)) ⟨_, _, rfl, .inl rfl⟩
    have ih' := ih rest f hr (by simp at hf; omega)
    obtain ⟨t0, r0, rfl, h0e, h0k⟩ := hps.head
    rw [List.append_assoc]
    exact tuplePairs_comma_more hp' rfl h0e h0k ih'

/- The fuel: two per token suffice.  A bracket pair pays for the three calls `expression → listBody → elements` it costs (a tuple for one more,
`tuplePairs`), every further element for its `elements` call with its comma; `argument` hands over `2 * r.length + 2`. -/
mutual
  /-- **token-level round trip for values**: a rendering of a value, followed by a terminator, is read back as exactly that value -/
  theorem expression_renders : ∀ {ts : List Tok} {e : ENode}, RVal ts e → ∀ (rest : List Tok) (fuel : Nat), IsTerm rest → 2 * ts.length ≤ fuel →
      expression fuel (ts ++ rest) = .ok (e, rest)
    | _, _, h, rest, fuel, hr, hf => by
        obtain ⟨f, rfl⟩ : ∃ f, fuel = f + 1 := by
          obtain ⟨t, r, rfl, _⟩ := h.head
          exact ⟨fuel - 1, by rw [List.length_cons] at hf; omega⟩
        obtain ⟨t, r, rfl, ht⟩ := hr
        have hu := Ends.of_terminator ht
        cases h with
        | int n l => exact expression_number f r (.inl rfl) hu
        | float q l => exact expression_number f r (.inr rfl) hu
        | qstr s l => exact expression_string f _ rfl
        | bare s l => exact expression_unquoted f (.inl rfl) (plainString_one r (.inl rfl) rfl hu.noErr hu.noWord) hu
        | plain s l => exact expression_unquoted f (.inr rfl) (plainString_one r (.inr rfl) rfl hu.noErr hu.noWord) hu
        | idPlain a b l l2 => exact expression_unquoted f (.inl rfl) (plainString_two r rfl rfl rfl (.inr rfl) rfl hu.noErr hu.noWord) hu
        | nil l l' =>
          obtain ⟨f, rfl⟩ : ∃ g, f = g + 1 := ⟨f - 1, by rw [List.length_cons, List.length_singleton] at hf; omega⟩
          exact expression_list _ rfl (listBody_close f _ rfl)
        | list l l' ts es hes =>
          rw [List.length_append, List.length_cons, List.length_singleton] at hf
          obtain ⟨f, rfl⟩ : ∃ g, f = g + 1 := ⟨f - 1, by omega⟩
          have ih := elements_renders hes (⟨.rbrack, .none, l'⟩ :: t :: r) f ⟨_, _, rfl, rfl⟩ (by omega)
          obtain ⟨t0, r0, rfl, h0e, h0k⟩ := hes.head
          simp only [List.cons_append, List.append_assoc, List.nil_append] at ih ⊢
          exact expression_list _ rfl (listBody_elements f h0e h0k ih rfl)
        | dict l l' ts kv hkv =>
          obtain ⟨t0, r0, rfl, h0e, h0k⟩ := hkv.head
          rw [List.length_append, List.length_cons, List.length_cons, List.length_singleton] at hf
          obtain ⟨f, rfl⟩ : ∃ g, f = g + 2 := ⟨f - 2, by omega⟩
          have ht := tuplePairs_renders hkv (⟨.rbrack, .none, l'⟩ :: t :: r) f ⟨_, _, rfl, rfl⟩ (by rw [List.length_cons]; omega)
          have hat := hkv.atPair_true (⟨.rbrack, .none, l'⟩ :: t :: r)
          simp only [List.cons_append, List.append_assoc, List.nil_append] at ht hat ⊢
          exact expression_list _ rfl (listBody_elements _ h0e h0k (elements_pairs f hat ht) rfl)

  theorem elements_renders : ∀ {ts : List Tok} {es : List ENode}, RElems ts es → ∀ (rest : List Tok) (fuel : Nat), IsClose rest → 2 * ts.length + 1 ≤ fuel →
      elements fuel (ts ++ rest) = .ok (.list es, rest)
    | _, _, h, rest, fuel, hr, hf => by
        obtain ⟨f, rfl⟩ := Nat.exists_eq_add_one_of_ne_zero (Nat.ne_zero_of_lt hf)
        cases h with
        | one ts e hv =>
          have ih := expression_renders hv rest f hr.term (by omega)
          have hat := hv.atPair_false rest hr.term
          obtain ⟨t, r, rfl, hk⟩ := hr
          exact elements_end hat ih (isErr_false_of_kind hk rfl) (by rw [hk]; decide)
        | oneComma ts e lc hv =>
          have hterm : IsTerm ((⟨.comma, .none, lc⟩ : Tok) :: rest) := ⟨_, _, rfl, Or.inl rfl⟩
          rw [List.length_append, List.length_singleton] at hf
          have ih := expression_renders hv _ f hterm (by omega)
          have hat := hv.atPair_false _ hterm
          obtain ⟨t, r, rfl, hk⟩ := hr
          rw [List.append_assoc]
          exact elements_comma_end hat ih rfl hk
        | cons ts e lc ts' es hv hes =>
          have hterm : IsTerm ((⟨.comma, .none, lc⟩ : Tok) :: (ts' ++ rest)) := ⟨_, _, rfl, Or.inl rfl⟩
          rw [List.length_append, List.length_cons] at hf
          have ih := expression_renders hv _ f hterm (by omega)
          have ih2 := elements_renders hes rest f hr (by omega)
          have hat := hv.atPair_false _ hterm
          obtain ⟨t0, r0, rfl, h0e, h0k⟩ := hes.head
          rw [List.append_assoc]
          exact elements_comma_more hat ih rfl h0e h0k ih2
end

/-! ### arguments, commands, programs -/

/-- `name = value` -/
inductive RArg : List Tok → ANode → Prop
  | mk (n : String) (la le : Nat) (ts : List Tok) (e : ENode) : RVal ts e →
      RArg (⟨.id, .str n, la⟩ :: ⟨.equal, .none, le⟩ :: ts) ⟨n, e, la⟩

/-- one or more arguments separated by commas, optionally followed by a trailing comma -/
inductive RArgs : List Tok → List ANode → Prop
  | one (ts : List Tok) (a : ANode) : RArg ts a → RArgs ts [a]
  | oneComma (ts : List Tok) (a : ANode) (lc : Nat) : RArg ts a → RArgs (ts ++ [⟨.comma, .none, lc⟩]) [a]
  | cons (ts : List Tok) (a : ANode) (lc : Nat) (ts' : List Tok) (as : List ANode) :
      RArg ts a → RArgs ts' as → RArgs (ts ++ ⟨.comma, .none, lc⟩ :: ts') (a :: as)

/-- `Result = Command(arguments)`; the command node carries the line of the command name -/
inductive RCmd : List Tok → CNode → Prop
  | noArgs (r c : String) (l1 le lc lp lp' : Nat) :
      RCmd [⟨.id, .str r, l1⟩, ⟨.equal, .none, le⟩, ⟨.id, .str c, lc⟩, ⟨.lparen, .none, lp⟩, ⟨.rparen, .none, lp'⟩] ⟨some r, c, [], lc⟩
  | args (r c : String) (l1 le lc lp lp' : Nat) (ts : List Tok) (as : List ANode) : RArgs ts as →
      RCmd (⟨.id, .str r, l1⟩ :: ⟨.equal, .none, le⟩ :: ⟨.id, .str c, lc⟩ :: ⟨.lparen, .none, lp⟩ :: ts ++ [⟨.rparen, .none, lp'⟩]) ⟨some r, c, as, lc⟩

/-- one or more commands, one behind the other -/
inductive RProg : List Tok → List CNode → Prop
  | one (ts : List Tok) (c : CNode) : RCmd ts c → RProg ts [c]
  | cons (ts : List Tok) (c : CNode) (ts' : List Tok) (cs : List CNode) : RCmd ts c → RProg ts' cs → RProg (ts ++ ts') (c :: cs)

theorem argument_renders {ts : List Tok} {a : ANode} (h : RArg ts a) (rest : List Tok) (hr : IsTerm rest) :
    argument (ts ++ rest) = .ok (a, rest) := by
  cases h with
  | mk n la le ts e hv => exact argument_of rfl rfl rfl (expression_renders hv rest _ hr (by simp; omega))

theorem RArg.head {ts : List Tok} {a : ANode} (h : RArg ts a) : ∃ t r, ts = t :: r ∧ t.isErr = false ∧ t.kind ≠ .rparen := by
  cases h; exact ⟨_, _, rfl, rfl, nofun⟩

theorem RArgs.head {ts : List Tok} {as : List ANode} (h : RArgs ts as) : ∃ t r, ts = t :: r ∧ t.isErr = false ∧ t.kind ≠ .rparen := by
  cases h with
  | one ts a ha => exact ha.head
  | oneComma ts a lc ha => obtain ⟨t, r, rfl, h⟩ := ha.head; exact ⟨t, _, rfl, h⟩
  | cons ts a lc ts' as ha _ => obtain ⟨t, r, rfl, h⟩ := ha.head; exact ⟨t, _, rfl, h⟩

theorem args_go_renders : ∀ {ts : List Tok} {as : List ANode}, RArgs ts as → ∀ (lp : Nat) (rest : List Tok) (fuel : Nat) (acc : List ANode),
    ts.length ≤ fuel → arguments.go fuel (ts ++ ⟨.rparen, .none, lp⟩ :: rest) acc = .ok (acc.reverse ++ as, rest)
  | _, _, h, lp, rest, fuel, acc, hf => by
      obtain ⟨f, rfl⟩ : ∃ f, fuel = f + 1 := by
        obtain ⟨t, r, rfl, _⟩ := h.head
        exact ⟨fuel - 1, by rw [List.length_cons] at hf; omega⟩
      cases h with
      | one ts a ha => rw [args_go_close acc (argument_renders ha _ ⟨_, _, rfl, .inr (.inr rfl)⟩) rfl, List.reverse_cons]
      | oneComma ts a lc ha =>
        rw [List.append_assoc]
        exact (args_go_comma_close acc (argument_renders ha _ ⟨_, _, rfl, .inl rfl⟩) rfl rfl).trans (by rw [List.reverse_cons])
      | cons ts a lc ts' as ha has =>
        rw [List.length_append, List.length_cons] at hf
        have ih := args_go_renders has lp rest f (a :: acc) (by omega)
        obtain ⟨t0, r0, rfl, h0e, h0k⟩ := has.head
        rw [List.append_assoc]
        simp only [List.cons_append] at ih ⊢
        rw [args_go_comma_more acc (argument_renders ha _ ⟨_, _, rfl, .inl rfl⟩) rfl h0e h0k, ih, List.reverse_cons, List.append_assoc]
        rfl

theorem command_renders {ts : List Tok} {c : CNode} (h : RCmd ts c) (rest : List Tok) :
    command (ts ++ rest) = .ok ((c, false), rest) := by
  cases h with
  | noArgs r c l1 le lc lp lp' => exact command_v3 rfl rfl rfl rfl rfl (arguments_none rest rfl rfl)
  | args r c l1 le lc lp lp' ts as has =>
    have hgo := args_go_renders has lp' rest ((ts ++ ⟨.rparen, .none, lp'⟩ :: rest).length + 1) [] (by simp; omega)
    obtain ⟨t0, r0, rfl, h0e, h0k⟩ := has.head
    simp only [List.cons_append, List.append_assoc, List.nil_append] at hgo ⊢
    exact command_v3 rfl rfl rfl rfl rfl ((arguments_some _ rfl h0e h0k).trans hgo)

theorem RCmd.five_le_length {ts : List Tok} {c : CNode} (h : RCmd ts c) : 5 ≤ ts.length := by
  cases h <;> simp

theorem RProg.ne {ts : List Tok} {cs : List CNode} (h : RProg ts cs) : ts ≠ [] := by
  cases h with
  | one ts c hc => have := hc.five_le_length; rintro rfl; cases this
  | cons ts c ts' cs hc _ => have := hc.five_le_length; intro h; rw [(List.append_eq_nil_iff.mp h).1] at this; cases this

theorem parse_go_renders : ∀ {ts : List Tok} {cs : List CNode}, RProg ts cs → ∀ (fuel : Nat) (acc : List CNode),
    ts.length ≤ fuel → parseToks.go fuel ts acc false = .ok ⟨acc.reverse ++ cs, 3⟩
  | _, _, h, fuel, acc, hf => by
      obtain ⟨f, rfl⟩ : ∃ f, fuel = f + 1 := ⟨fuel - 1, by have := List.length_pos_iff.mpr h.ne; omega⟩
      cases h with
      | one ts c hc =>
        rw [parse_go_last acc false (by simpa using command_renders hc [])]
        simp
      | cons ts c ts' cs hc hcs =>
        have hl := hc.five_le_length
        rw [List.length_append] at hf
        have ih := parse_go_renders hcs f (c :: acc) (by omega)
        cases ts' with
        | nil => exact absurd rfl hcs.ne
        | cons t r =>
          rw [parse_go_more acc false (command_renders hc _), Bool.or_false, ih]
          simp

/-- **C10 at token level**: any rendering of a version-3 program - whatever lines its tokens are on, with or without trailing
commas, lists nested to any depth - is read back as exactly that program: a value or argument node with the line of its first token, a tuple
value with the line of its key (`RPair`), a command node with the line of its command name (`RCmd`) -/
theorem program_renders {ts : List Tok} {cs : List CNode} (h : RProg ts cs) : parseToks ts = .ok ⟨cs, 3⟩ := by
  have := parse_go_renders h (ts.length + 1) [] (by omega)
  simpa [parseToks] using this

/-! ## from characters to tokens

A command file is layout (blanks, tabs, line feeds, CR LF pairs, comments) and token spellings in alternation.  `Text cs line ts` says that
the characters `cs`, read from line `line` on, are such an alternation whose tokens - with the lines they really start on - are `ts`. -/

open MPilot.Lex

/-- layout and the number of line breaks in it -/
inductive Gap : List Char → Nat → Prop
  | nil : Gap [] 0
  | blank (c : Char) (g : List Char) (n : Nat) : c = ' ' ∨ c = '\t' → Gap g n → Gap (c :: g) n
  | lf (g : List Char) (n : Nat) : Gap g n → Gap ('\n' :: g) (n + 1)
  | crlf (g : List Char) (n : Nat) : Gap g n → Gap ('\r' :: '\n' :: g) (n + 1)
  | comment (body g : List Char) (n : Nat) : (∀ c ∈ body, c ≠ '\n') → Gap g n → Gap ('#' :: (body ++ '\n' :: g)) (n + 1)

/-- layout produces no token and advances the line counter by the line breaks it contains -/
theorem lexS_gap {g : List Char} {n : Nat} (h : Gap g n) (rest : List Char) (line : Nat) :
    lexS (g ++ rest) line = lexS rest (line + n) := by
  induction h generalizing line with
  | nil => simp
  | blank c g n hc _ ih => rw [List.cons_append, lexS_blank c _ line hc]; exact ih line
  | lf g n _ ih => rw [List.cons_append, lexS_lf, ih]; congr 1; omega
  | crlf g n _ ih => rw [List.cons_append, List.cons_append, lexS_crlf, ih]; congr 1; omega
  | comment body g n hb _ ih =>
    rw [List.cons_append, List.append_assoc, List.cons_append, lexS_comment body _ line hb, lexS_lf, ih]; congr 1; omega

/-- `sp` is a spelling of the token `(k, v)`: followed by any text that satisfies `ok`, it is read as that one token, on the line it starts on,
and reading continues right behind it on the same line -/
def Spells (sp : List Char) (k : TokKind) (v : TVal) (ok : List Char → Prop) : Prop :=
  ∀ rest line, ok rest → lexS (sp ++ rest) line = ⟨k, v, line⟩ :: lexS rest line

theorem spells_punct (c : Char) (k : TokKind) (h : punct? c = some k) : Spells [c] k .none (fun _ => True) :=
  fun rest line _ => lexS_punct c k rest line h

theorem spells_ident (c : Char) (w : List Char) (hc : isIdStart c = true) (hw : ∀ x ∈ w, isIdCont x = true) :
    Spells (c :: w) .id (.str (String.ofList (c :: w))) (StopsAt isIdCont) :=
  fun rest line hs => lexS_tok (idstart_not_blank c hc) (scanOne_ident c w rest line hc hw hs)

/-- unquoted text that starts with a character no other token can start with (`%`, `/`, `~`, `*`, a non-ASCII letter ...), holds no delimiter and does
not end in a blank: one `PLAIN_STRING` token with exactly that text, provided a delimiter (or the end of the text) follows -/
theorem spells_plain (c : Char) (w : List Char) (hc : PlainStart c) (hw : ∀ x ∈ w, isPlainStop x = false)
    (hlast : ∀ x, (c :: w).getLast? = some x → x ≠ ' ' ∧ x ≠ '\t') :
    Spells (c :: w) .plain (.str (String.ofList (c :: w))) (StopsAt (fun d => !isPlainStop d)) :=
  fun rest line hs => lexS_tok hc.not_blank (scanOne_plain c w rest line hc hw hlast hs)

/-- non-vacuity: `%abc` and a path; and how the real token stream of `P = x.y, /d/f.csv)` looks (identifier run + plain string, plain string) -/
example : Spells "%abc".toList .plain (.str "%abc") (StopsAt (fun d => !isPlainStop d)) := by
  -- the literal is written out as characters first: matched against `c :: w` as it stands, the elaborator would decode it by unfolding `toList`
  simp only [String.reduceToList]
  exact spells_plain '%' _ (by unfold PlainStart; decide) (by decide) (by decide)
example : Spells "/data/in put.csv".toList .plain (.str "/data/in put.csv") (StopsAt (fun d => !isPlainStop d)) := by
  simp only [String.reduceToList]
  exact spells_plain '/' _ (by unfold PlainStart; decide) (by decide) (by decide)
example : (lexS "P = x.y, /d/f.csv)".toList 1).map (fun t => (t.kind, t.val)) =
    [(.id, .str "P"), (.equal, .none), (.id, .str "x"), (.plain, .str ".y"), (.comma, .none), (.plain, .str "/d/f.csv"), (.rparen, .none)] := by decide +kernel

theorem spells_int (neg : Bool) (ds : List Char) (hne : ds ≠ []) (hd : ∀ c ∈ ds, isDig c = true) :
    Spells (signChars neg ++ ds) .int (.int (if neg then -(digitsVal ds : Int) else (digitsVal ds : Int)))
      (StopsAt (fun c => isDig c || c == '.')) := by
  intro rest line hs
  obtain ⟨hF, hI⟩ := scanInt_spelling neg ds rest hne hd hs
  rw [List.append_assoc]
  exact lexS_of_int line hF hI

/-- `ip.fp` without exponent; the bound on the places is the model's own cut-off (`scanFloat`, see `Lex.lexS_decimal`) -/
theorem spells_float (neg : Bool) (ip fp : List Char) (hne : ip ≠ []) (hi : ∀ c ∈ ip, isDig c = true) (hf : ∀ c ∈ fp, isDig c = true)
    (hlen : fp.length ≤ 5000) :
    Spells (signChars neg ++ (ip ++ '.' :: fp)) .float (floatTokVal neg ip fp) (StopsAt (fun c => isDig c || c == 'e' || c == 'E')) :=
  fun rest line hs => by simpa using lexS_decimal_noexp neg ip fp rest line (.inl hne) hi hf hs hlen

/-- decimals with an exponent: `ip.fp` then `e`/`E`, an optional sign and digits (`1.5e3`, `-2.E-4`, `7.25e+10`), for every scaling within ±5000
decimal places (far beyond the range of doubles); the value is the exact rational `ip.fp · 10^e` -/
theorem spells_float_exp (neg : Bool) (ip fp : List Char) (upper : Bool) (sign : Option Bool) (ed : List Char)
    (hne : ip ≠ []) (hi : ∀ c ∈ ip, isDig c = true) (hf : ∀ c ∈ fp, isDig c = true) (hene : ed ≠ []) (hed : ∀ c ∈ ed, isDig c = true)
    (hlen : (expVal sign ed - fp.length).natAbs ≤ 5000) :
    Spells (signChars neg ++ (ip ++ '.' :: (fp ++ expChars upper sign ed))) .float (floatExpTokVal neg ip fp (expVal sign ed)) (StopsAt isDig) := by
  intro rest line hs
  have hse : StopsAt isDig (expChars upper sign ed ++ rest) := by
    unfold expChars; apply stopsAt_cons; cases upper <;> decide
  have := lexS_decimal neg ip fp (expChars upper sign ed) rest _ line (Or.inl hne) hi hf hse (scanExponent_exp upper sign ed rest hene hed hs) hlen
  simpa using this

/-- decimals that start with the point: `.5`, `-.25` (the bound: as for `spells_float`) -/
theorem spells_float_dot (neg : Bool) (fp : List Char) (hne : fp ≠ []) (hf : ∀ c ∈ fp, isDig c = true) (hlen : fp.length ≤ 5000) :
    Spells (signChars neg ++ ('.' :: fp)) .float (floatTokVal neg [] fp) (StopsAt (fun c => isDig c || c == 'e' || c == 'E')) :=
  fun rest line hs => by simpa using lexS_decimal_noexp neg [] fp rest line (.inr hne) (by simp) hf hs hlen

/-- non-vacuity: `1.5e3` is the number 1500, `2.5E-1` is 1/4 -/
example : floatExpTokVal false ['1'] ['5'] (expVal none ['3']) = .float 1500 ∧ floatExpTokVal false ['2'] ['5'] (expVal (some true) ['1']) = .float (1 / 4) := by
  decide +kernel

/-- every string, written the way the serializer quotes it, followed by anything -/
theorem spells_quoted (s : String) : Spells (quoteStr s).toList .string (.str s) (fun _ => True) := by
  intro rest line _
  have hq : (quoteStr s).toList = '"' :: (quoteChars s.toList ++ ['"']) := by simp [quoteStr, String.toList_append]
  have h := C15.quote_roundtrip s rest line
  rw [C15.quote_no_newlines, Nat.add_zero] at h
  rw [hq] at h ⊢
  exact lexS_tok (by decide) h

/-! ### quoted strings as a user writes them: the inside made of ordinary characters and backslash pairs (`QBody`, Lemmas/LexString) -/

/-- **any quoted string**: text between two equal quotes whose inside is made of ordinary characters and backslash pairs, and which the decoder
(`stringValue`: the model of `encode("latin-1", "backslashreplace").decode("unicode_escape")`) turns into `v`, is one STRING token with value `v`,
on the line it starts on; line breaks inside it are counted -/
theorem quoted_any (q : Char) (hq : q = '"' ∨ q = '\'') (cs rest : List Char) (line : Nat) (hb : QBody q cs) (v : List Char)
    (hv : stringValue cs = .ok v) :
    scanOne (q :: (cs ++ q :: rest)) line = .tok ⟨.string, .str (String.ofList v), line⟩ rest (line + countNewlines cs) := by
  have hs : scanStringBody q (cs ++ q :: rest) [] = some (cs, rest) := scan_qbody hq hb rest []
  rw [scanOne_string hq line hs, hv]

/-- and a quoted string whose escapes the decoder refuses (`"\x4"`, `"\u12"`) is a syntax error, not a token -/
theorem quoted_bad_escape (q : Char) (hq : q = '"' ∨ q = '\'') (cs rest : List Char) (line : Nat) (hb : QBody q cs) (hv : stringValue cs = .bad) :
    scanOne (q :: (cs ++ q :: rest)) line = .stop ⟨.errEscape, .none, line⟩ := by
  have hs : scanStringBody q (cs ++ q :: rest) [] = some (cs, rest) := scan_qbody hq hb rest []
  rw [scanOne_string hq line hs, hv]

/-- a quoted string written with either kind of quote, holding any characters except a backslash and the quote itself - blanks, tabs, raw line
breaks, delimiters, non-ASCII text - is one STRING token with exactly that content, on the line it starts on; the line counter moves on by the
line breaks inside it -/
theorem raw_string (q : Char) (hq : q = '"' ∨ q = '\'') (cs rest : List Char) (line : Nat) (h : ∀ c ∈ cs, c ≠ q ∧ c ≠ '\\') :
    scanOne (q :: (cs ++ q :: rest)) line = .tok ⟨.string, .str (String.ofList cs), line⟩ rest (line + countNewlines cs) :=
  quoted_any q hq cs rest line (qbody_raw h) cs (stringValue_raw fun c hc => (h c hc).2)

/-- `sp` spells the token `(k, v)` and contains `n` line breaks: what follows is read from line `line + n` on -/
def SpellsN (sp : List Char) (k : TokKind) (v : TVal) (n : Nat) (ok : List Char → Prop) : Prop :=
  ∀ rest line, ok rest → lexS (sp ++ rest) line = ⟨k, v, line⟩ :: lexS rest (line + n)

theorem Spells.toN {sp : List Char} {k : TokKind} {v : TVal} {ok : List Char → Prop} (h : Spells sp k v ok) : SpellsN sp k v 0 ok :=
  fun rest line hok => by rw [h rest line hok]; rfl

theorem spells_quoted_any (q : Char) (hq : q = '"' ∨ q = '\'') (cs : List Char) (hb : QBody q cs) (v : List Char) (hv : stringValue cs = .ok v) :
    SpellsN (q :: (cs ++ [q])) .string (.str (String.ofList v)) (countNewlines cs) (fun _ => True) := by
  intro rest line _
  have e : q :: (cs ++ [q]) ++ rest = q :: (cs ++ q :: rest) := by simp
  rw [e]
  have hbl : q ≠ ' ' ∧ q ≠ '\t' := by rcases hq with rfl | rfl <;> decide
  exact lexS_tok hbl (quoted_any q hq cs rest line hb v hv)

theorem spells_raw_string (q : Char) (hq : q = '"' ∨ q = '\'') (cs : List Char) (h : ∀ c ∈ cs, c ≠ q ∧ c ≠ '\\') :
    SpellsN (q :: (cs ++ [q])) .string (.str (String.ofList cs)) (countNewlines cs) (fun _ => True) :=
  spells_quoted_any q hq cs (qbody_raw h) cs (stringValue_raw fun c hc => (h c hc).2)

/-- non-vacuity: a single-quoted string holding a raw line break; the word after it is on line 2 -/
example : (lexS "x = 'a\nb' y".toList 1).map (fun t => (t.kind, t.line)) = [(.id, 1), (.equal, 1), (.string, 1), (.id, 2)] := by decide +kernel

/-- non-vacuity: escapes of every kind the decoder knows, as a user may write them -/
example : (lexS "P = \"a\\x41\\u00e9\\101\\n\\\\\\\"z\"".toList 1).map (fun t => (t.kind, t.val)) =
    [(.id, .str "P"), (.equal, .none), (.string, .str "aAéA\n\\\"z")] := by decide +kernel

/-- a command file as characters: layout, a token spelling, layout, ... - with the tokens it denotes and the lines they start on -/
inductive Text : List Char → Nat → List Tok → Prop
  | done (g : List Char) (n line : Nat) : Gap g n → Text g line []
  | tok (g sp tail : List Char) (n line : Nat) (k : TokKind) (v : TVal) (ok : List Char → Prop) (ts : List Tok) :
      Gap g n → Spells sp k v ok → ok tail → Text tail (line + n) ts → Text (g ++ (sp ++ tail)) line (⟨k, v, line + n⟩ :: ts)
  | tokN (g sp tail : List Char) (n m line : Nat) (k : TokKind) (v : TVal) (ok : List Char → Prop) (ts : List Tok) :
      Gap g n → SpellsN sp k v m ok → ok tail → Text tail (line + n + m) ts → Text (g ++ (sp ++ tail)) line (⟨k, v, line + n⟩ :: ts)

theorem lexS_text {cs : List Char} {line : Nat} {ts : List Tok} (h : Text cs line ts) : lexS cs line = ts := by
  induction h with
  | done g n line hg => have := lexS_gap hg [] line; simpa [lexS_nil] using this
  | tok g sp tail n line k v ok ts hg hsp hok _ ih => rw [lexS_gap hg, hsp tail (line + n) hok, ih]
  | tokN g sp tail n m line k v ok ts hg hsp hok _ ih => rw [lexS_gap hg, hsp tail (line + n) hok, ih]

/-- **C10, characters to program.**  A text made of token spellings (identifiers, integers, decimals with or without exponent, quoted strings
of any content - escaped as the serializer writes them, or written raw in single or double quotes, line breaks included -, punctuation)
separated by arbitrary layout - blanks, tabs, line feeds or CR LF, comments - whose tokens render the program `cs`
(lists nested to any depth, trailing commas or not) parses to exactly `cs`: a value or argument node carrying the line of its first token, a tuple value that of its key, a command node that of
its command name. -/
theorem parse_text (chars : List Char) (ts : List Tok) (cs : List CNode) (ht : Text chars 1 ts) (hp : RProg ts cs) :
    parse (String.ofList chars) = .ok ⟨cs, 3⟩ := by
  rw [parse, lex_eq_lexS, String.toList_ofList, lexS_text ht]
  exact program_renders hp

/-- non-vacuity: a concrete file meets the premises of `parse_text` -/
example : parse (String.ofList ['A', '=', 'B', '(', 'x', '=', '7', ')', '\n']) = .ok ⟨[⟨some "A", "B", [⟨"x", .mk (.int 7) 1, 1⟩], 1⟩], 3⟩ := by
  refine parse_text _ [⟨.id, .str "A", 1⟩, ⟨.equal, .none, 1⟩, ⟨.id, .str "B", 1⟩, ⟨.lparen, .none, 1⟩, ⟨.id, .str "x", 1⟩, ⟨.equal, .none, 1⟩,
    ⟨.int, .int 7, 1⟩, ⟨.rparen, .none, 1⟩] _ ?_ ?_
  · refine Text.tok [] ['A'] _ 0 1 _ _ _ _ Gap.nil (spells_ident 'A' [] (by decide) (by simp)) (stopsAt_cons (by decide)) ?_
    refine Text.tok [] ['='] _ 0 1 _ _ _ _ Gap.nil (spells_punct '=' .equal (by decide)) trivial ?_
    refine Text.tok [] ['B'] _ 0 1 _ _ _ _ Gap.nil (spells_ident 'B' [] (by decide) (by simp)) (stopsAt_cons (by decide)) ?_
    refine Text.tok [] ['('] _ 0 1 _ _ _ _ Gap.nil (spells_punct '(' .lparen (by decide)) trivial ?_
    refine Text.tok [] ['x'] _ 0 1 _ _ _ _ Gap.nil (spells_ident 'x' [] (by decide) (by simp)) (stopsAt_cons (by decide)) ?_
    refine Text.tok [] ['='] _ 0 1 _ _ _ _ Gap.nil (spells_punct '=' .equal (by decide)) trivial ?_
    refine Text.tok [] ['7'] _ 0 1 _ _ _ _ Gap.nil (spells_int false ['7'] (by simp) (by decide)) (stopsAt_cons (by decide)) ?_
    refine Text.tok [] [')'] _ 0 1 _ _ _ _ Gap.nil (spells_punct ')' .rparen (by decide)) trivial ?_
    exact Text.done ['\n'] 1 1 (Gap.lf [] 0 Gap.nil)
  · exact RProg.one _ _ (RCmd.args "A" "B" 1 1 1 1 1 _ _ (RArgs.one _ _ (RArg.mk "x" 1 1 _ _ (RVal.int 7 1))))

end MPilot.C10
