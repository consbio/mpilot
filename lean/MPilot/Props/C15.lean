/-
C15 — serialising a program and loading it back gives the same program.

Proved here: the heart of the matter for string values.  Whatever text a string value or metadata entry holds — quotes, backslashes
before any character, control characters, any Unicode code point — the serializer's `quote()` writes a token that the lexer scans as
one STRING token and decodes back to exactly that text (`quote_roundtrip`).  Whole programs: Props/C15Program, which reaches this through
`C10.spells_quoted`.  The lexer's side of the argument (scanning a quoted body, hexadecimal escapes, decoding one character) is in
Lemmas/LexString; what is left here is `quote()` itself.
-/
import MPilot.Model.Serialize
import MPilot.Lemmas.LexString

namespace MPilot.C15
open MPilot.Lex

/-- the two-character escapes `quote()` writes: a character and the letter that stands for it behind the backslash -/
inductive Esc : Char → Char → Prop
  | bs : Esc '\\' '\\'
  | dq : Esc '"' '"'
  | lf : Esc '\n' 'n'
  | cr : Esc '\r' 'r'
  | tab : Esc '\t' 't'

/-- `quote()`, one character at a time: an escape pair, or the character itself (then no backslash, quote or line break).  Everything
below is an induction over the text that takes these two cases. -/
theorem quoteChars_cons (c : Char) (t : List Char) :
    (∃ e, Esc c e ∧ quoteChars (c :: t) = '\\' :: e :: quoteChars t) ∨
    (c ≠ '\\' ∧ c ≠ '"' ∧ c ≠ '\n' ∧ c ≠ '\r' ∧ quoteChars (c :: t) = c :: quoteChars t) := by
  rw [quoteChars]
  by_cases h1 : c = '\\'; · subst h1; exact .inl ⟨_, .bs, rfl⟩
  by_cases h2 : c = '"'; · subst h2; exact .inl ⟨_, .dq, rfl⟩
  by_cases h3 : c = '\n'; · subst h3; exact .inl ⟨_, .lf, rfl⟩
  by_cases h4 : c = '\r'; · subst h4; exact .inl ⟨_, .cr, rfl⟩
  by_cases h5 : c = '\t'; · subst h5; exact .inl ⟨_, .tab, rfl⟩
  exact .inr ⟨h1, h2, h3, h4, by simp [h1, h2, h3, h4, h5]⟩

theorem Esc.no_break {c e : Char} (h : Esc c e) : e ≠ '\n' ∧ e ≠ '\r' := by cases h <;> decide

theorem qbody_quote (cs : List Char) : C10.QBody '"' (quoteChars cs) := by
  induction cs with
  | nil => exact .nil
  | cons c t ih =>
    rcases quoteChars_cons c t with ⟨e, he, hq⟩ | ⟨h1, h2, _, _, hq⟩ <;> rw [hq]
    · exact .esc e _ he.no_break.1 ih
    · exact .char c _ h2 h1 ih

theorem scan_quote (cs rest acc : List Char) :
    scanStringBody '"' (quoteChars cs ++ '"' :: rest) acc = some (acc.reverse ++ quoteChars cs, rest) :=
  scan_qbody (.inl rfl) (qbody_quote cs) rest acc

/-- quoted text never contains a raw line break, so it does not move the line counter -/
theorem quote_no_newlines (cs : List Char) : countNewlines (quoteChars cs) = 0 := by
  induction cs with
  | nil => rfl
  | cons c t ih =>
    rcases quoteChars_cons c t with ⟨e, he, hq⟩ | ⟨_, _, h3, h4, hq⟩ <;> rw [hq]
    · rw [countNewlines_cons (by decide) (by decide), countNewlines_cons he.no_break.1 he.no_break.2, ih]
    · rw [countNewlines_cons h3 h4, ih]

theorem hexRun4 (n : Nat) (h : n < 65536) (r : List Char) : hexRun 4 (hexN 4 n ++ r) = some (n, r) := hexRun_hexN 4 n h r
theorem hexRun8 (n : Nat) (h : n < 4294967296) (r : List Char) : hexRun 8 (hexN 8 n ++ r) = some (n, r) := hexRun_hexN 8 n h r

theorem bsr_cons (c : Char) (t : List Char) : backslashReplace (c :: t) = backslashReplace [c] ++ backslashReplace t :=
  bsr_append [c] t

theorem dec_esc {c e : Char} (h : Esc c e) (fuel : Nat) (r acc : List Char) :
    decodeEscapes (fuel + 1) ('\\' :: e :: r) acc = decodeEscapes fuel r (c :: acc) := by
  cases h <;> rw [decodeEscapes]

theorem bsr_esc {c e : Char} (h : Esc c e) (t : List Char) : backslashReplace ('\\' :: e :: t) = '\\' :: e :: backslashReplace t := by
  cases h <;> simp [backslashReplace]

/-- **decoding inverts quoting**, for every text: escapes of backslash, quote, newline, carriage return and tab come back as those
characters; every other character up to U+00FF passes through; every character above is written as `\uXXXX` / `\UXXXXXXXX` by
the latin-1/backslashreplace step and decoded back to itself -/
theorem decode_quote (cs : List Char) : ∀ (fuel : Nat) (acc : List Char), (backslashReplace (quoteChars cs)).length < fuel →
    decodeEscapes fuel (backslashReplace (quoteChars cs)) acc = .ok (acc.reverse ++ cs) := by
  induction cs with
  | nil =>
    intro fuel acc hf
    obtain ⟨f, rfl⟩ := Nat.exists_eq_succ_of_ne_zero (Nat.ne_zero_of_lt hf)
    rw [quoteChars, backslashReplace, List.flatMap_nil, decodeEscapes, List.append_nil]
  | cons c t ih =>
    intro fuel acc hf
    obtain ⟨f, rfl⟩ := Nat.exists_eq_succ_of_ne_zero (Nat.ne_zero_of_lt hf)
    rcases quoteChars_cons c t with ⟨e, he, hq⟩ | ⟨h1, _, _, _, hq⟩ <;> rw [hq] at hf ⊢
    · rw [bsr_esc he] at hf ⊢
      rw [dec_esc he, ih f _ (by rw [List.length_cons, List.length_cons] at hf; omega), List.reverse_cons, List.append_assoc]; rfl
    · rw [bsr_cons] at hf ⊢
      rw [dec_char c h1, ih f _ (by have := bsr_pos c; rw [List.length_append] at hf; omega), List.reverse_cons, List.append_assoc]; rfl

/-- **C15 (string values).**  The token `quote(s)` written by the serializer, followed by anything, is scanned as one STRING token whose
value is exactly `s` and whose end is exactly where the closing quote was — for every string `s`. -/
theorem quote_roundtrip (s : String) (rest : List Char) (line : Nat) :
    scanOne ((quoteStr s).toList ++ rest) line =
      .tok ⟨.string, .str s, line⟩ rest (line + countNewlines (quoteChars s.toList)) := by
  have hq : (quoteStr s).toList ++ rest = '"' :: (quoteChars s.toList ++ '"' :: rest) := by
    simp [quoteStr, String.toList_append]
  have hs : scanStringBody '"' (quoteChars s.toList ++ '"' :: rest) [] = some (quoteChars s.toList, rest) := scan_quote _ rest []
  rw [hq, scanOne_string (.inl rfl) line hs, stringValue, decode_quote _ _ [] (Nat.lt_succ_self _)]
  simp

end MPilot.C15
