/-
C01 (histories) — what holds after ANY outcome of `Command.run` / `Program.run`, failures included, and therefore at every point of
any history of runs and result reads over one program: runs that stop with an error (a failing body, a rejected argument, an unknown
name), whose cause is then removed (the body's behaviour may differ from one step of the history to the next), runs that are
repeated, results that are read in between.

`FInv` (Props/C01.lean) is the part of C01's invariant that does not speak about bodies still open.  Every outcome keeps it and the memo only
grows: a finished command never executes again and its stored result never changes - whatever failed in between.
-/
import MPilot.Props.C01

namespace MPilot.C01

variable {Val : Type}

variable (sem : Sem Val) (p : Program) (r : String → Nat)

/-- **every outcome of `Command.run` / `.result` keeps the invariant** (acyclic program): whether the command finishes, its body or one of
its inputs fails, an argument is refused or the name is unknown - finished commands stay finished, exactly once, in dependency order;
nothing of higher rank than `n` finished; on success `n` is finished -/
theorem runCmd_any (hr : Ranked sem p r) :
    ∀ (fuel : Nat) (st : St Val) (n : String) (st' : St Val) (oe : Option PErr), FInv sem p st →
      runCmd sem p fuel st n = (st', oe) → Ext sem p r (r n + 1) st st' ∧ (oe = none → n ∈ names st') :=
  fun _ _ _ _ _ hinv h =>
    have ⟨h1, hs⟩ := runCmd_reach hr h
    ⟨⟨h1.finv hinv, h1.grows.1, h1.grows.2⟩, fun hv => (hs hv).1⟩

/-- **every outcome of `Program.run` keeps the invariant**: rejected before execution (nothing changes), stopped by a failing command, or
completed - the log and the stored results only grow -/
theorem run_any (hr : Ranked sem p r) (st st' : St Val) (oe : Option PErr) (hinv : FInv sem p st) (h : run sem p st = (st', oe)) :
    FInv sem p st' ∧ (∃ ext, st'.log = st.log ++ ext) ∧ (∃ m, st'.memo = st.memo ++ m) :=
  have h1 := (run_reach hr h).1
  ⟨h1.finv hinv, h1.grows.1, h1.grows.2.imp fun _ => And.left⟩

/-- one step of a history: `Program.run()` or a read of one command's `.result`, under the bodies' behaviour of that moment -/
inductive HOp
  | run
  | result (n : String)

/-- the state after one step (the error, if any, is dropped: the caller catches it and goes on) -/
def hstep (p : Program) (st : St Val) (x : Sem Val × HOp) : St Val :=
  match x.2 with
  | .run => (run x.1 p st).1
  | .result n => (runCmd x.1 p (p.cmds.length + 1) st n).1

def history (p : Program) (ops : List (Sem Val × HOp)) : St Val := ops.foldl (hstep p) { memo := [], log := [] }

/-- `FInv` only looks at what the bodies read, not at what they compute: it can be carried from one behaviour to another -/
theorem FInv.congr {sem sem' : Sem Val} {p : Program} {st : St Val} (h : FInv sem p st) (hp : sem'.pulls = sem.pulls) : FInv sem' p st :=
  ⟨h.nodup, h.fin, by rw [hp]; exact h.ordered⟩

theorem Ranked.congr {sem sem' : Sem Val} {p : Program} {r : String → Nat} (h : Ranked sem p r) (hp : sem'.pulls = sem.pulls) : Ranked sem' p r := by
  unfold Ranked at *; rw [hp]; exact h

/-- **folds that keep an invariant and only extend.**  If every step keeps `I` and only appends to the list `f` reads off the state, the state at the
end satisfies `I` and its list extends the list of every earlier point.  A step may rely on `G` of the state it leads to, where `G` is something the end is
known to have and every earlier point inherits from its successor (for histories with edits: the program, as far as it has grown, is acyclic). -/
theorem foldl_inv {σ α β : Type} (step : σ → α → σ) (f : σ → List β) {G I : σ → Prop} (hG : ∀ s x, G (step s x) → G s) :
    ∀ (ops : List α), (∀ s, ∀ x ∈ ops, G (step s x) → I s → I (step s x) ∧ ∃ m, f (step s x) = f s ++ m) → ∀ s, G (ops.foldl step s) → I s →
      I (ops.foldl step s) ∧ ∀ k, ∃ m, f (ops.foldl step s) = f ((ops.take k).foldl step s) ++ m := by
  have back : ∀ (l : List α) (s : σ), G (l.foldl step s) → G s := fun l => by
    induction l with
    | nil => exact fun _ => id
    | cons y l ih => exact fun s h => hG s y (ih _ h)
  intro ops
  induction ops with
  | nil => exact fun _ s _ hs => ⟨hs, fun k => ⟨[], by simp⟩⟩
  | cons x rest ih =>
    intro hI s hg hs
    obtain ⟨hi, m1, h1⟩ := hI s x List.mem_cons_self (back rest _ hg) hs
    obtain ⟨h2, hk⟩ := ih (fun s y hy => hI s y (List.mem_cons_of_mem _ hy)) _ hg hi
    exact ⟨h2, fun k => match k with | 0 => let ⟨m2, h2⟩ := hk 0; ⟨m1 ++ m2, h2.trans (by simp [h1])⟩ | k + 1 => hk k⟩

theorem hstep_reach {p : Program} {r : String → Nat} (x : Sem Val × HOp) (hr : Ranked x.1 p r) (st : St Val) :
    Reach x.1 p (fun _ => True) st (hstep p st x) := by
  unfold hstep
  split
  · exact (run_reach hr rfl).1
  · exact (runCmd_reach hr rfl).1.mono fun _ _ => trivial

/-- **C01 over whole histories.**  Take any acyclic program and any sequence of `run()` calls and `.result` reads, each under its own behaviour of
the bodies (a body may fail at one step and succeed at a later one: a file repaired, a service back) as long as bodies read the same inputs.
After the whole history - failed steps included - and hence at every point of it:
* no command has completed twice (`(finishes log).Nodup`), the completed commands are exactly the recorded ones, in completion order,
* every completed command's inputs completed before it,
* what an earlier part of the history had stored is still stored, unchanged and in place (`memo` of any prefix is a prefix of the final `memo`). -/
theorem history_ok (hr : Ranked sem p r) (ops : List (Sem Val × HOp)) (hops : ∀ x ∈ ops, x.1.pulls = sem.pulls) :
    FInv sem p (history p ops) ∧ (finishes (history p ops).log).Nodup ∧
    ∀ (k : Nat), ∃ m, (history p ops).memo = (history p (ops.take k)).memo ++ m := by
  obtain ⟨hfin, hk⟩ := foldl_inv (hstep p) (·.memo) (G := fun _ => True) (I := FInv sem p) (fun _ _ => id) ops
    (fun st x hx _ hinv =>
      have h := hstep_reach x (hr.congr (hops x hx)) st
      ⟨(h.finv (hinv.congr (hops x hx))).congr (hops x hx).symm, h.grows.2.imp fun _ => And.left⟩)
    _ trivial (finv_init sem p)
  exact ⟨hfin, hfin.fin ▸ hfin.nodup, hk⟩

/-- a read that succeeds completes what it was asked for: the command read is finished - also when earlier steps of the history had failed
(for a successful `run()` and its leaves see `run_reach`, for "every command" under the reading premise `run_executes_all`, both in C01) -/
theorem result_after_history (hr : Ranked sem p r) (ops : List (Sem Val × HOp)) (hops : ∀ x ∈ ops, x.1.pulls = sem.pulls)
    (sem' : Sem Val) (hs : sem'.pulls = sem.pulls) (n : String) (st' : St Val)
    (h : runCmd sem' p (p.cmds.length + 1) (history p ops) n = (st', none)) :
    n ∈ names st' ∧ FInv sem p st' ∧ ∃ m, st'.memo = (history p ops).memo ++ m := by
  obtain ⟨hfin, _, _⟩ := history_ok sem p r hr ops hops
  obtain ⟨step, hmem⟩ := runCmd_any sem' p r (Ranked.congr hr hs) _ _ n st' none (hfin.congr hs) h
  obtain ⟨m, hm, _⟩ := step.memoExt
  exact ⟨hmem rfl, step.inv.congr hs.symm, m, hm⟩

/-! non-vacuity: two commands, `b` reads `a`; under `exSem true` the body of `a` fails -/
section
def exDecl : CmdDecl := { name := "N", module := "m", inputs := [], output := none, isFuzzy := false, allowExtra := true }
def exProg : Program := { cmds := [⟨"b", exDecl, [], some 2⟩, ⟨"a", exDecl, [], some 1⟩], workingDir := none, exists_ := fun _ => false }
def exSem (aFails : Bool) : Sem Nat :=
  { pulls := fun c => if c.resultName == "b" then ["a"] else []
    compute := fun c vals => if c.resultName == "a" && aFails then .error (.raw "IOError") else .ok vals.length
    kind := fun _ => .other }
def exRank : String → Nat := fun n => if n == "b" then 1 else 0

theorem exRanked : Ranked (exSem true) exProg exRank := .of_mem (by decide)

/-- the premises of `history_ok` are met by a history in which the first run fails (the body of `a` raises) and the second succeeds
(the driver evaluates this history to the finished commands a, b - in that order) -/
example : FInv (exSem true) exProg (history exProg [(exSem true, .run), (exSem false, .result "a"), (exSem true, .run), (exSem false, .run)]) :=
  (history_ok (exSem true) exProg exRank exRanked _ (by intro x hx; simp at hx; rcases hx with rfl | rfl | rfl | rfl <;> rfl)).1
end

end MPilot.C01
