/-
C12 — models are accepted iff well-formed, and rejected before any side effect.

Loading first (`addCommand`, `fromNodes`; the condition `CmdOK` stands in Lemmas/Load, beside `addCommand_eq_ok`), then validation (the pre-pass
and what `run` does with its verdict), and last what cleaning asks of a reference to a result (`result_ref_ok_iff`): that is where existence,
output kind and fuzziness of a referenced result enter the pre-pass.
-/
import MPilot.Lemmas.Load
import MPilot.Lemmas.Clean

namespace MPilot.C12

variable {Val : Type}

theorem addCommand_ok_iff (p : Program) (decl : CmdDecl) (rn : String) (args : List Arg) (line : Option Nat) :
    (∃ p', addCommand p decl rn args line = .ok p') ↔ CmdOK p decl rn args := by
  simp only [addCommand_eq_ok, exists_and_left, exists_eq, and_true]

/-- the specific error, in the code's order of checks: a duplicate result before missing parameters; each carries the line of the offending
command (the undeclared parameter, checked last and reported with the argument's line, is `addCommand_error` in Lemmas/Load) -/
theorem addCommand_errors (p : Program) (decl : CmdDecl) (rn : String) (args : List Arg) (line : Option Nat) :
    ((p.find? rn).isSome = true → addCommand p decl rn args line = .error (.mp "DuplicateResult" line)) ∧
    ((p.find? rn).isSome = false → (∃ i ∈ decl.inputs, i.required = true ∧ ∀ a ∈ args, a.name ≠ i.name) →
        addCommand p decl rn args line = .error (.mp "MissingParameters" line)) := by
  unfold addCommand
  constructor
  · intro h; rw [if_pos h]
  · intro h1 h2
    rw [if_neg (by simpa using h1), if_pos ((any_missing_iff decl args).mpr h2)]

/-- an unknown command name is reported with the line of that command -/
theorem unknown_command (lib : String → Option CmdDecl) (p : Program) (n : Node) (rest : List Node) (h : lib n.command = none) :
    fromNodes lib p (n :: rest) = .error (.mp "CommandDoesNotExist" n.line) := by
  unfold fromNodes; rw [h]

theorem prepassCmd_ok_iff (ctx : Ctx) (c : PCmd) : ∀ (args : List Arg),
    (∃ r, prepassCmd ctx c args = .ok r) ↔
      ∀ a ∈ args, ∀ i, c.decl.input? a.name = some i → ∃ w, clean ctx i.spec a.value = .ok w := by
  intro args
  refine ⟨fun ⟨r, h⟩ => (prepassCmd_outcome ctx c args).1 r h, fun hall => ?_⟩
  cases h : prepassCmd ctx c args with
  | ok r => exact ⟨r, rfl⟩
  | error e =>
    obtain ⟨a, ha, i, ce, hi, hce, _⟩ := (prepassCmd_outcome ctx c args).2 e h
    obtain ⟨w, hw⟩ := hall a ha i hi
    rw [hce] at hw; cases hw

/-- a declared argument at the head of the list that does not clean is the one reported, with its own line, whatever follows it -/
theorem prepassCmd_first_error (ctx : Ctx) (c : PCmd) (a : Arg) (rest : List Arg) (i : InputDecl) (e : CleanErr)
    (hi : c.decl.input? a.name = some i) (he : clean ctx i.spec a.value = .error e) :
    prepassCmd ctx c (a :: rest) = .error (cleanErrToPErr e a.line) := by
  unfold prepassCmd; rw [hi]; simp only [he]

/-- **the pre-pass of `Program.run` accepts a model exactly when every declared argument of every command cleans** (existence, output kind and
fuzziness of referenced results are part of cleaning a reference: `result_ref_ok_iff`) -/
theorem prepass_ok_iff (ctx : Ctx) : ∀ (cmds : List PCmd),
    (∃ info, prepass ctx cmds = .ok info) ↔
      ∀ c ∈ cmds, ∀ a ∈ c.args, ∀ i, c.decl.input? a.name = some i → ∃ w, clean ctx i.spec a.value = .ok w := by
  intro cmds
  simp only [← prepassCmd_ok_iff]
  refine ⟨fun ⟨info, h⟩ => (prepass_outcome ctx cmds).1 info h, fun hall => ?_⟩
  cases h : prepass ctx cmds with
  | ok info => exact ⟨info, rfl⟩
  | error e =>
    obtain ⟨c, hc, he⟩ := (prepass_outcome ctx cmds).2 e h
    obtain ⟨r, hr⟩ := hall c hc
    rw [he] at hr; cases hr

/-- **a file is loaded exactly when every command, in file order, can be added to what the commands before it built**: its name is a command of
the selected libraries and `add_command` accepts it (`addCommand_ok_iff`: result name free, required parameters present, nothing undeclared) -/
theorem fromNodes_ok_iff (lib : String → Option CmdDecl) : ∀ (nodes : List Node) (p : Program),
    (∃ q, fromNodes lib p nodes = .ok q) ↔
      ∃ ps : List Program, ps.length = nodes.length + 1 ∧ ps[0]? = some p ∧
        ∀ k (hk : k < nodes.length), ∃ decl pk pk', lib nodes[k].command = some decl ∧ ps[k]? = some pk ∧ ps[k + 1]? = some pk' ∧
          addCommand pk decl nodes[k].resultName (dedupArgs nodes[k].args) nodes[k].line = .ok pk' := by
  intro nodes
  induction nodes with
  | nil => exact fun p => ⟨fun _ => ⟨[p], rfl, rfl, nofun⟩, fun _ => ⟨p, rfl⟩⟩
  | cons n rest ih =>
    intro p
    simp only [fromNodes_cons_eq_ok]
    constructor
    · rintro ⟨q, decl, p', hl, hadd, h⟩
      obtain ⟨ps, hlen, h0, hstep⟩ := (ih p').mp ⟨q, h⟩
      refine ⟨p :: ps, by simp [hlen], rfl, fun k hk => ?_⟩
      cases k with
      | zero => exact ⟨decl, p, p', hl, rfl, h0, hadd⟩
      | succ k => simpa only [List.getElem_cons_succ, List.getElem?_cons_succ] using hstep k (Nat.lt_of_succ_lt_succ hk)
    · rintro ⟨ps, hlen, h0, hstep⟩
      obtain ⟨decl, pk, pk', hl, hpk, hpk', hadd⟩ := hstep 0 (by simp)
      match ps, hlen with
      | p0 :: ps, hlen =>
        cases h0; cases hpk
        obtain ⟨q, h⟩ := (ih pk').mpr ⟨ps, by simpa using hlen, hpk',
          fun k hk => by simpa only [List.getElem_cons_succ, List.getElem?_cons_succ] using hstep (k + 1) (Nat.succ_lt_succ hk)⟩
        exact ⟨q, decl, pk', hl, hadd, h⟩

/-- **acceptance end to end**: `Program.run` gets past validation exactly when the pre-pass accepts and the reference graph has no loop; otherwise it
returns the specific error with nothing executed -/
theorem run_validates_first (sem : Sem Val) (p : Program) (st : St Val) :
    (∃ e, prepass (mkCtx sem p st) p.cmds = .error e ∧ run sem p st = (st, some e)) ∨
    (∃ info, prepass (mkCtx sem p st) p.cmds = .ok info ∧ hasCycle p (depsOf info) = true ∧ run sem p st = (st, some (.mp "RecursiveModelStructure" none))) ∨
    (∃ info, prepass (mkCtx sem p st) p.cmds = .ok info ∧ hasCycle p (depsOf info) = false ∧ run sem p st = run.go sem p (leavesOf p info) st) :=
  run_outcome sem p st

/-- **rejected before any side effect**: whatever error the pre-pass raises, `run` returns it with the state untouched —
no command body entered, no result produced -/
theorem reject_no_effects (sem : Sem Val) (p : Program) (st : St Val) (e : PErr)
    (h : prepass (mkCtx sem p st) p.cmds = .error e) : run sem p st = (st, some e) := by
  unfold run; rw [h]

/-- a load that is rejected returns no `Program`: `fromNodes` gives an error or a program, not both - which is true of every `Except` value
(the statement does not look into `fromNodes`) -/
theorem load_reject_no_program (lib : String → Option CmdDecl) (p : Program) (nodes : List Node) (e : PErr)
    (h : fromNodes lib p nodes = .error e) : ¬∃ p', fromNodes lib p nodes = .ok p' := by
  rintro ⟨p', hp⟩; rw [h] at hp; cases hp

/-- a reference parameter accepts exactly: an existing result (of a command that has not run yet: `hnf`), of the required fuzziness, whose
declared output kind is accepted -/
theorem result_ref_ok_iff (ctx : Ctx) (ot : Option PClass) (fz : Option Bool) (s : String) (info : CmdInfo)
    (hl : ctx.lookup s = some info) (hnf : info.finished = false) :
    (∃ w, clean ctx (.result ot fz) (.str s) = .ok w) ↔
      (fz = some true → info.isFuzzy = true) ∧ (fz = some false → info.isFuzzy = false) ∧
      (∀ want, ot = some want → ∀ out, info.output = some out → want.acceptsOutput out = true) := by
  -- found and not yet run, `clean` is the two fuzziness guards, then the declared output against the kind asked for; the four cases left are
  -- whether a kind is asked for and whether an output is declared
  unfold clean
  simp only [hl, hnf, Option.isSome_some, if_true, ite_error_eq_ok, exists_and_left]
  cases ot <;> cases info.output <;> simp [ite_ok_eq_ok]

/-- a reference to a result that does not exist is reported as such -/
theorem result_ref_missing (ctx : Ctx) (ot : Option PClass) (fz : Option Bool) (s : String) (hl : ctx.lookup s = none) :
    clean ctx (.result ot fz) (.str s) = .error "ResultDoesNotExist" := by
  rw [clean_result_str, hl]; rfl

end MPilot.C12
