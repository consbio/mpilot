/-
C03 — missing data stays missing and never leaks into valid results.
-/
import MPilot.Lemmas.PlanProps
import MPilot.Lemmas.List

namespace MPilot.C03

/-- single-input commands: related input lists have the same length, so both sides take the same arm -/
macro "one_R" h:ident _a:ident _a':ident ha:ident : tactic =>
  `(tactic| (rcases $h:ident with _ | ⟨$ha:ident, _ | ⟨_, _⟩⟩ <;> simp only [exec] <;> first | exact ExceptR.eRaw _ | skip))

/-- **C03 (non-interference).** Inputs that look the same — same element type, shape, missing cells and non-missing
values, whatever lies hidden beneath the missing cells — give the same outcome: the same error, or results that look
the same.  All 31 data commands, any number/shape of inputs, any parameters, any `sqrt`. -/
theorem payload_irrelevant (sqrt : Rat → Rat) (c : DataCmd) {xs xs' : List Arr} (h : List.Forall₂ ArrR xs xs') :
    ExceptR (exec sqrt c xs) (exec sqrt c xs') := by
  rw [exec_eq, exec_eq, view_R h]
  cases plan sqrt c (view xs') with
  | error e => exact ExceptR.err e
  | ok p => exact p.run_R (scaled_R c h)

/-- arrays of one shape have the same number of cells (true of every numpy array: the number of cells is the product of the shape) -/
def SameShapeSameSize (xs : List Arr) : Prop := ∀ a ∈ xs, ∀ b ∈ xs, a.shape = b.shape → a.cells.length = b.cells.length

theorem sameSize_of_wf (xs : List Arr) (h : ∀ a ∈ xs, a.cells.length = a.shape.foldl (· * ·) 1) : SameShapeSameSize xs := by
  intro a ha b hb hs; rw [h a ha, h b hb, hs]

theorem validateShapes_size {ref : LineRef} {xs : List Arr} (h : validateShapes ref xs = .ok ()) (hw : SameShapeSameSize xs) :
    ∀ a ∈ xs, ∀ b ∈ xs, a.cells.length = b.cells.length := by
  have hne : xs ≠ [] := by rintro rfl; cases h
  exact fun a ha b hb => hw a ha b hb ((validateShapes_ok_iff ref xs hne).mp h a ha b hb)

/-- single-input commands: only the one-array arm delivers a result -/
macro "one_sup" xs:ident h:ident ha:ident : tactic =>
  `(tactic| (rcases $xs:ident with _ | ⟨b, _ | ⟨b2, t⟩⟩ <;> simp only [exec] at $h:ident <;> (try (cases $h:ident; done)) <;>
             (simp only [List.mem_singleton] at $ha:ident; subst $ha:ident)))

/-- **C03 (missing stays missing).**  Whenever a data command delivers a result, that result has a cell for every cell of every input
and is missing wherever the input is: all 31 commands, any number of inputs, any parameters, any `sqrt`.  (Hypothesis: inputs of one
shape have equally many cells, as every numpy array has.) -/
theorem mask_superset (sqrt : Rat → Rat) (c : DataCmd) (xs : List Arr) (hw : SameShapeSameSize xs) (out : Arr)
    (h : exec sqrt c xs = .ok out) : ∀ a ∈ xs, Sup a out := by
  intro a ha
  obtain ⟨p, hp, rfl⟩ := exec_ok h
  obtain ⟨hk, hv, -⟩ := plan_ok hp
  have hsz := validateShapes_size hv hw
  obtain ⟨b, hb, hab⟩ := forall₂_mem_left (scaled_spec hk) ha
  refine Sup.trans ?_ (p.run_sup (scaled_length hk fun x hx => hsz x hx a ha) b hb)
  rcases hab with rfl | ⟨w, rfl⟩
  · exact Sup.refl _
  · exact mapCells_sup (sc_sup _) a

/-- the 16 commands that take one input field -/
def isUnary : DataCmd → Bool
  | .copy | .normalize .. | .normalizeZScore .. | .normalizeCat .. | .normalizeCurve .. | .normalizeMeanToMid .. | .normalizeCurveZScore ..
  | .cvtToFuzzy .. | .cvtToFuzzyZScore .. | .cvtToFuzzyCat .. | .cvtToFuzzyCurve .. | .cvtToFuzzyMeanToMid .. | .cvtToFuzzyCurveZScore ..
  | .cvtToBinary .. | .fuzzyNot | .cvtFromFuzzy .. => true
  | _ => false

/-- **C03 (no leak in the other direction).**  The result of a single-input conversion or normalisation is missing exactly where its input
is - or missing everywhere (`ExactOrAll`).  The bodies take the second way out when the mapping is undefined for the array as a whole (no spread
of values to normalise, zero standard deviation, coinciding z-score thresholds); the theorem does not say when, only that nothing in between happens.  All 16 single-input
commands; for the n-ary ones the cell theorems of C06/C07
(`sum_cell`, `or_cell`, `mean_cell`, `weightedSum_cell`, ...) give the mask exactly as the union of the input masks. -/
theorem single_input_mask_exact (sqrt : Rat → Rat) (c : DataCmd) (hc : isUnary c = true) (a out : Arr) (h : exec sqrt c [a] = .ok out) : ExactOrAll a out := by
  have hc : c.inputs = .exactly 1 := by cases c <;> first | rfl | cases hc
  obtain ⟨p, hp, rfl⟩ := exec_ok h
  obtain ⟨dt, post, rfl⟩ := plan_one hc hp
  rw [scaled_exactly hc]
  exact Plan.one_run_exact dt post a

end MPilot.C03
