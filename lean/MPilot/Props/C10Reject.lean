/-
C10 — "malformed text is rejected with a syntax error": what the grammar model *cannot* accept.  The theorems say "is not accepted"; which error a
rejection carries (`syntax` or `outside`) is stated for the empty file only.  They are the converse of `program_renders` / `parse_text` (Props/C10)
for two whole classes of malformed text, for token lists of any length and nesting:

* a text in which the lexer met an illegal character, a bad escape sequence or a value outside the model *anywhere* (an error token at any
  position) is never accepted - the parser does not skip or swallow such a token, whatever surrounds it (`accepted_no_error_token`,
  `error_token_rejected`);
* in every accepted token list the square brackets and parentheses are properly nested and all closed (`walk [] ts = some []`): a missing,
  surplus or crossed `[` `]` `(` `)` is rejected (`accepted_well_nested`, `unbalanced_rejected`);
and two small shapes: the empty file, a file that does not start with a name (more of these in Props/C10Shape).

The method: each parsing function that calls others is read off once (`f_ok`: what a call that succeeds looks like); from that, every parsing
function consumes a prefix of its input that is free of error tokens and neutral for the bracket stack (`f_consumes`), by induction on the fuel
of the mutually recursive functions (`expression_consumes`: `expression`, `listBody`, `elements` together) and along the loops.  For
`plainString`, `permissive` and `tuplePair` the `f_consumes` lemma is read off the definition directly and also says whose line the result carries.
-/
import MPilot.Model.Grammar

namespace MPilot.C10R

/-- the stack of open brackets after reading the tokens (`none`: a closing bracket without its opening partner) -/
def walk : List TokKind → List Tok → Option (List TokKind)
  | st, [] => some st
  | st, t :: r =>
    if t.kind = .lbrack ∨ t.kind = .lparen then walk (t.kind :: st) r
    else if t.kind = .rbrack then (match st with | .lbrack :: st' => walk st' r | _ => none)
    else if t.kind = .rparen then (match st with | .lparen :: st' => walk st' r | _ => none)
    else walk st r

theorem walk_append (a b : List Tok) (st : List TokKind) : walk st (a ++ b) = (walk st a).bind (fun s => walk s b) := by
  fun_induction walk st a <;> simp_all [walk]

def isBracket (k : TokKind) : Bool := k == .lbrack || k == .lparen || k == .rbrack || k == .rparen

/-- a stretch of tokens without error tokens that leaves every bracket stack as it found it -/
def Neutral (pre : List Tok) : Prop := (∀ t ∈ pre, t.isErr = false) ∧ ∀ st, walk st pre = some st

theorem Neutral.nil : Neutral [] := ⟨by simp, fun _ => rfl⟩

theorem Neutral.append {a b : List Tok} (ha : Neutral a) (hb : Neutral b) : Neutral (a ++ b) := by
  refine ⟨List.forall_mem_append.mpr ⟨ha.1, hb.1⟩, fun st => ?_⟩
  rw [walk_append, ha.2 st]; exact hb.2 st

theorem Neutral.single {t : Tok} (he : t.isErr = false) (hk : isBracket t.kind = false) : Neutral [t] := by
  refine ⟨by simpa using he, fun st => ?_⟩
  simp only [isBracket, Bool.or_eq_false_iff, beq_eq_false_iff_ne] at hk
  obtain ⟨⟨⟨h1, h2⟩, h3⟩, h4⟩ := hk
  simp [walk, h1, h2, h3, h4]

theorem Neutral.cons {t : Tok} {a : List Tok} (he : t.isErr = false) (hk : isBracket t.kind = false) (ha : Neutral a) : Neutral (t :: a) :=
  Neutral.append (Neutral.single he hk) ha

theorem Neutral.wrap {o c : Tok} {a : List Tok} (ho : o.isErr = false) (hc : c.isErr = false) (ha : Neutral a)
    (hk : (o.kind = .lbrack ∧ c.kind = .rbrack) ∨ (o.kind = .lparen ∧ c.kind = .rparen)) : Neutral (o :: a ++ [c]) := by
  refine ⟨List.forall_mem_append.mpr ⟨List.forall_mem_cons.mpr ⟨ho, ha.1⟩, List.forall_mem_singleton.mpr hc⟩, fun st => ?_⟩
  -- `o` is pushed, `a` leaves the stack as it is, `c` pops `o`
  show walk st (o :: (a ++ [c])) = some st
  rcases hk with ⟨h1, h2⟩ | ⟨h1, h2⟩ <;> simp [walk, walk_append, ha.2, h1, h2]

/-- `rest` is `ts` behind a neutral stretch -/
def Consumes (ts rest : List Tok) : Prop := ∃ pre, ts = pre ++ rest ∧ Neutral pre

theorem Consumes.refl (ts : List Tok) : Consumes ts ts := ⟨[], rfl, Neutral.nil⟩

theorem Consumes.trans {a b c : List Tok} (h1 : Consumes a b) (h2 : Consumes b c) : Consumes a c := by
  obtain ⟨p, rfl, hp⟩ := h1
  obtain ⟨q, rfl, hq⟩ := h2
  exact ⟨p ++ q, by simp, hp.append hq⟩

theorem Consumes.step {t : Tok} {r : List Tok} (he : t.isErr = false) (hk : isBracket t.kind = false) : Consumes (t :: r) r :=
  ⟨[t], rfl, Neutral.single he hk⟩

theorem Consumes.stepThen {t : Tok} {r rest : List Tok} (he : t.isErr = false) (hk : isBracket t.kind = false) (h : Consumes r rest) :
    Consumes (t :: r) rest := (Consumes.step he hk).trans h

theorem peek_some {ts : List Tok} {k : TokKind} (h : peek ts = .ok (some k)) : ∃ t r, ts = t :: r ∧ t.isErr = false ∧ t.kind = k := by
  cases ts with
  | nil => cases h
  | cons t r =>
    rw [peek] at h
    split at h
    · cases h
    · rename_i he; cases h; exact ⟨t, r, rfl, by simpa using he, rfl⟩

theorem expect_ok {k : TokKind} {ts : List Tok} {t : Tok} {r : List Tok} (h : expect k ts = .ok (t, r)) :
    ts = t :: r ∧ t.isErr = false ∧ t.kind = k := by
  cases ts with
  | nil => cases h
  | cons u s =>
    rw [expect] at h
    split at h
    · cases h
    · rename_i he
      split at h
      · rename_i hk; cases h; exact ⟨rfl, by simpa using he, eq_of_beq hk⟩
      · cases h

theorem psStart_not_bracket {k : TokKind} (h : isPsStart k = true) : isBracket k = false := by
  cases k <;> first | rfl | cases h

theorem plain_go_consumes {ts : List Tok} {acc : String} {last : Option TokKind} {s : String} {last' : Option TokKind} {rest : List Tok}
    (h : plainString.go ts acc last = .ok (s, last', rest)) : Consumes ts rest := by
  fun_induction plainString.go ts acc last with
  | case1 => cases h; exact Consumes.refl _
  | case4 t r acc last he hp s' hs ih => exact Consumes.stepThen (by simpa using he) (psStart_not_bracket hp) (ih h)
  | case5 => cases h; exact Consumes.refl _
  | _ => cases h

theorem plainString_consumes {ts : List Tok} {s : String} {l : Nat} {rest : List Tok} (h : plainString ts = .ok ((s, l), rest)) :
    Consumes ts rest ∧ ∃ t r, ts = t :: r ∧ l = t.line := by
  unfold plainString at h
  cases ts with
  | nil => cases h
  | cons t0 r0 =>
    dsimp only at h
    split at h  -- an error token
    · cases h
    · split at h  -- a token that cannot start an unquoted string
      · cases h
      · split at h  -- the run of tokens
        · cases h
        · rename_i hgo
          split at h  -- its last token is a word
          · cases h; exact ⟨plain_go_consumes hgo, t0, r0, rfl, rfl⟩
          · cases h

theorem permissive_more_consumes {fuel : Nat} {acc : String} {ts : List Tok} {v : String} {rest : List Tok}
    (h : permissive.more fuel acc ts = .ok (v, rest)) : Consumes ts rest := by
  fun_induction permissive.more fuel acc ts with
  | case4 fuel acc ts hp w l rest' hps ih =>
    obtain ⟨t, r, rfl, he, hk⟩ := peek_some hp
    exact Consumes.stepThen he (hk ▸ rfl) ((plainString_consumes hps).1.trans (ih h))
  | case5 => cases h; exact Consumes.refl _
  | _ => cases h

theorem permissive_consumes {fuel : Nat} {ts : List Tok} {s : String} {l : Nat} {rest : List Tok} (h : permissive fuel ts = .ok ((s, l), rest)) :
    Consumes ts rest ∧ ∃ t r, ts = t :: r ∧ l = t.line := by
  unfold permissive at h
  split at h
  · cases h
  · rename_i hps
    split at h
    · cases h
    · rename_i hm
      cases h
      exact ⟨(plainString_consumes hps).1.trans (permissive_more_consumes hm), (plainString_consumes hps).2⟩

theorem isNumberHere_not_bracket {u : Tok} {r : List Tok} (h : isNumberHere (u :: r) = .ok true) : isBracket u.kind = false := by
  unfold isNumberHere at h
  by_cases hk : (u.kind == .int || u.kind == .float) = true
  · rcases Bool.or_eq_true_iff.mp hk with h1 | h1 <;> · have := eq_of_beq h1; rw [this]; rfl
  · simp [hk] at h

theorem tuplePair_consumes {ts : List Tok} {k : String} {v : ENode} {rest : List Tok} (h : tuplePair ts = .ok ((k, v), rest)) :
    Consumes ts rest ∧ ∃ t r, ts = t :: r ∧ v.line = t.line := by
  unfold tuplePair at h
  cases ts with
  | nil => cases h
  | cons t r =>
    dsimp only at h
    split at h  -- the key
    · cases h
    · rename_i k0 line rest0 hkey
      have hk0 : Consumes (t :: r) rest0 ∧ line = t.line := by
        split at hkey
        · cases hkey  -- an error token
        · rename_i he
          split at hkey
          · rename_i hs  -- key: STRING
            split at hkey
            · cases hkey; exact ⟨Consumes.step (by simpa using he) (by rw [eq_of_beq hs]; rfl), rfl⟩
            · cases hkey
          · obtain ⟨h1, t', r', e, h2⟩ := plainString_consumes hkey  -- key: plain_string
            cases e; exact ⟨h1, h2⟩
      obtain ⟨hk0, rfl⟩ := hk0
      split at h  -- the colon
      · cases h
      · rename_i c rest1 hex
        obtain ⟨rfl, hce, hck⟩ := expect_ok hex
        have hk1 : Consumes (t :: r) rest1 := hk0.trans (Consumes.step hce (by rw [hck]; rfl))
        split at h  -- the first token `u` of the value
        · cases h
        · rename_i u r1
          split at h
          · cases h  -- an error token
          · rename_i hue
            have hue' : u.isErr = false := by simpa using hue
            split at h
            · rename_i hus  -- value: STRING
              cases h; exact ⟨hk1.trans (Consumes.step hue' (by rw [eq_of_beq hus]; rfl)), t, r, rfl, rfl⟩
            · split at h  -- `isNumberHere`
              · cases h
              · rename_i hnum  -- value: a number
                cases h; exact ⟨hk1.trans (Consumes.step hue' (isNumberHere_not_bracket hnum)), t, r, rfl, rfl⟩
              · split at h  -- value: `permissive`
                · cases h
                · rename_i hperm
                  cases h; exact ⟨hk1.trans (permissive_consumes hperm).1, t, r, rfl, rfl⟩

/-! ### expressions, lists, elements, tuple pairs (mutually recursive) -/

theorem expression_ok {fuel : Nat} {ts : List Tok} {e : ENode} {rest : List Tok} (h : expression fuel ts = .ok (e, rest)) :
    ∃ f t r, fuel = f + 1 ∧ ts = t :: r ∧ t.isErr = false ∧ e.line = t.line ∧
      ((t.kind = .string ∧ rest = r) ∨ (t.kind = .lbrack ∧ ∃ v, listBody f r = .ok (v, rest)) ∨ (isNumberHere ts = .ok true ∧ rest = r) ∨
        ∃ s l, permissive (ts.length + 1) ts = .ok ((s, l), rest)) := by
  cases fuel with
  | zero => rw [expression] at h; cases h
  | succ f =>
    cases ts with
    | nil => rw [expression] at h; cases h
    | cons t r =>
      rw [expression] at h
      split at h
      · cases h  -- an error token
      · rename_i he
        refine ⟨f, t, r, rfl, rfl, by simpa using he, ?_⟩
        split at h
        · rename_i hs; cases h; exact ⟨rfl, .inl ⟨eq_of_beq hs, rfl⟩⟩  -- STRING
        · split at h
          · rename_i hl  -- `[`: a list
            split at h
            · cases h
            · rename_i v rest' hlb; cases h; exact ⟨rfl, .inr (.inl ⟨eq_of_beq hl, v, hlb⟩)⟩
          · split at h  -- `isNumberHere`
            · cases h
            · rename_i hnum; cases h; exact ⟨rfl, .inr (.inr (.inl ⟨hnum, rfl⟩))⟩  -- a number
            · split at h  -- can an unquoted string start here
              · split at h  -- `permissive`
                · cases h
                · rename_i s l rest' hperm
                  cases h
                  obtain ⟨_, t', r', e, hl⟩ := permissive_consumes hperm
                  cases e; exact ⟨hl, .inr (.inr (.inr ⟨s, _, hperm⟩))⟩
              · cases h

theorem listBody_ok {fuel : Nat} {ts : List Tok} {v : EVal} {rest : List Tok} (h : listBody fuel ts = .ok (v, rest)) :
    ∃ f, fuel = f + 1 ∧ (peek ts = .ok (some .rbrack) ∧ rest = ts.drop 1 ∨
      peek ts ≠ .ok (some .rbrack) ∧ ∃ rb, elements f ts = .ok (v, rb :: rest) ∧ rb.isErr = false ∧ rb.kind = .rbrack) := by
  cases fuel with
  | zero => rw [listBody] at h; cases h
  | succ f =>
    refine ⟨f, rfl, ?_⟩
    rw [listBody] at h
    split at h
    · cases h
    · rename_i hp; cases h; exact .inl ⟨hp, rfl⟩
    · rename_i a hne hp
      split at h
      · cases h
      · rename_i v' rest' hel
        split at h
        · cases h
        · rename_i rb rest'' hex
          cases h
          obtain ⟨rfl, hre, hrk⟩ := expect_ok hex
          exact .inr ⟨by rw [hp]; intro e; cases e; exact hne rfl, rb, hel, hre, hrk⟩

theorem peek_comma_consumes {rest : List Tok} (hp : peek rest = .ok (some .comma)) : Consumes rest (rest.drop 1) := by
  obtain ⟨c, r, rfl, he, hk⟩ := peek_some hp
  exact Consumes.step he (by rw [hk]; rfl)

/-- accepted elements: tuple pairs; or an expression, and behind it either no comma (the end), or a comma and then the end or more elements -/
theorem elements_ok {fuel : Nat} {ts : List Tok} {v : EVal} {rest : List Tok} (h : elements fuel ts = .ok (v, rest)) :
    ∃ f, fuel = f + 1 ∧
      ((atPair ts = true ∧ ∃ kv, tuplePairs f ts = .ok (kv, rest)) ∨
       (atPair ts = false ∧ ∃ e r, expression f ts = .ok (e, r) ∧
         ((∃ a, peek r = .ok a ∧ a ≠ some .comma ∧ rest = r) ∨
          (peek r = .ok (some .comma) ∧ (rest = r.drop 1 ∨ ∃ xs, elements f (r.drop 1) = .ok (.list xs, rest)))))) := by
  cases fuel with
  | zero => rw [elements] at h; cases h
  | succ f =>
    refine ⟨f, rfl, ?_⟩
    rw [elements] at h
    split at h
    · rename_i hat  -- tuple pairs
      split at h
      · cases h
      · rename_i kv rest' htp; cases h; exact .inl ⟨hat, kv, htp⟩
    · rename_i hat  -- an expression
      refine .inr ⟨by simpa using hat, ?_⟩
      split at h
      · cases h
      · rename_i e r hex
        refine ⟨e, r, hex, ?_⟩
        split at h  -- the token behind it
        · cases h
        · rename_i hc  -- a comma
          dsimp only at h
          split at h  -- the token behind the comma
          · cases h
          · cases h; exact .inr ⟨hc, .inl rfl⟩  -- `]`: the end
          · split at h  -- more elements
            · cases h
            · rename_i xs rest2 hel; cases h; exact .inr ⟨hc, .inr ⟨xs, hel⟩⟩
            · cases h  -- tuple pairs behind an element
        · rename_i a hne hpk; cases h; exact .inl ⟨a, hpk, fun e => hne e, rfl⟩  -- no comma: the end

/-- what `listBody` and the argument loop consume: a neutral stretch and the closing bracket of kind `k` -/
def ClosedBy (k : TokKind) (ts rest : List Tok) : Prop := ∃ c, Consumes ts (c :: rest) ∧ c.isErr = false ∧ c.kind = k

theorem ClosedBy.of_close {k : TokKind} {ts rest0 : List Tok} (h1 : Consumes ts rest0) (hp : peek rest0 = .ok (some k)) :
    ClosedBy k ts (rest0.drop 1) := by
  obtain ⟨c, r, rfl, he, hk⟩ := peek_some hp
  exact ⟨c, h1, he, hk⟩

theorem ClosedBy.prepend {k : TokKind} {a b c : List Tok} (h1 : Consumes a b) (h2 : ClosedBy k b c) : ClosedBy k a c :=
  let ⟨t, h, ht⟩ := h2; ⟨t, h1.trans h, ht⟩

theorem ClosedBy.wrap {k : TokKind} {o : Tok} {r rest : List Tok} (ho : o.isErr = false) (h : ClosedBy k r rest)
    (hk : (o.kind = .lbrack ∧ k = .rbrack) ∨ (o.kind = .lparen ∧ k = .rparen)) : Consumes (o :: r) rest := by
  obtain ⟨c, ⟨inner, rfl, hin⟩, hce, hck⟩ := h
  exact ⟨o :: inner ++ [c], by simp, Neutral.wrap ho hce hin (hck ▸ hk)⟩

-- `kv`, `rest` explicit: `generalizing` over implicit variables leaves the induction hypothesis without a name
theorem tuplePairs_consumes {fuel : Nat} {ts : List Tok} (kv : List (String × ENode)) (rest : List Tok)
    (h : tuplePairs fuel ts = .ok (kv, rest)) : Consumes ts rest := by
  fun_induction tuplePairs fuel ts generalizing kv rest with
  | case5 fuel ts k v r htp hc => cases h; exact (tuplePair_consumes htp).1.trans (peek_comma_consumes hc)
  | case7 fuel ts k v r htp hc _ a _ _ kv' rest' hrec ih =>
    cases h; exact ((tuplePair_consumes htp).1.trans (peek_comma_consumes hc)).trans (ih _ _ hrec)
  | case8 fuel ts k v r htp => cases h; exact (tuplePair_consumes htp).1
  | _ => cases h

theorem expression_consumes : ∀ fuel : Nat,
    (∀ ts v rest, expression fuel ts = .ok (v, rest) → Consumes ts rest) ∧
    (∀ ts v rest, listBody fuel ts = .ok (v, rest) → ClosedBy .rbrack ts rest) ∧
    (∀ ts v rest, elements fuel ts = .ok (v, rest) → Consumes ts rest)
  | 0 => by
    refine ⟨?_, ?_, ?_⟩ <;> intro ts v rest h
    · rw [expression] at h; cases h
    · rw [listBody] at h; cases h
    · rw [elements] at h; cases h
  | fuel + 1 => by
    obtain ⟨ihE, ihL, ihEl⟩ := expression_consumes fuel
    refine ⟨?_, ?_, ?_⟩ <;> intro ts v rest h
    · obtain ⟨f, t, r, hf, rfl, he, _, ⟨hs, rfl⟩ | ⟨hl, v', hlb⟩ | ⟨hnum, rfl⟩ | ⟨s, l, hperm⟩⟩ := expression_ok h
      · exact Consumes.step he (by rw [hs]; rfl)
      · cases hf; exact (ihL _ _ _ hlb).wrap he (.inl ⟨hl, rfl⟩)
      · exact Consumes.step he (isNumberHere_not_bracket hnum)
      · exact (permissive_consumes hperm).1
    · obtain ⟨f, hf, ⟨hp, rfl⟩ | ⟨_, rb, hel, hre, hrk⟩⟩ := listBody_ok h
      · exact .of_close (Consumes.refl ts) hp
      · cases hf; exact ⟨rb, ihEl _ _ _ hel, hre, hrk⟩
    · obtain ⟨f, hf, ⟨_, kv, htp⟩ | ⟨_, e, r, hex, ⟨a, _, _, rfl⟩ | ⟨hc, rfl | ⟨xs, hel⟩⟩⟩⟩ := elements_ok h
      · exact tuplePairs_consumes _ _ htp
      · cases hf; exact ihE _ _ _ hex
      · cases hf; exact (ihE _ _ _ hex).trans (peek_comma_consumes hc)
      · cases hf; exact ((ihE _ _ _ hex).trans (peek_comma_consumes hc)).trans (ihEl _ _ _ hel)

/-! ### arguments, commands, programs -/

theorem argument_ok {ts : List Tok} {a : ANode} {rest : List Tok} (h : argument ts = .ok (a, rest)) :
    ∃ n e r v, ts = n :: e :: r ∧ n.isErr = false ∧ n.kind = .id ∧ e.isErr = false ∧ e.kind = .equal ∧
      expression (2 * r.length + 2) r = .ok (v, rest) ∧ a.line = n.line := by
  unfold argument at h
  split at h
  · cases h
  · rename_i n r0 hid
    obtain ⟨rfl, he, hk⟩ := expect_ok hid
    split at h
    · cases h
    · rename_i e r heq
      obtain ⟨rfl, he2, hk2⟩ := expect_ok heq
      split at h
      · cases h
      · rename_i v rest' hex
        split at h
        · cases h; exact ⟨n, e, r, v, rfl, he, hk, he2, hk2, hex, rfl⟩
        · cases h

theorem argument_consumes {ts : List Tok} {a : ANode} {rest : List Tok} (h : argument ts = .ok (a, rest)) : Consumes ts rest := by
  obtain ⟨n, e, r, v, rfl, he, hk, he2, hk2, hex, _⟩ := argument_ok h
  exact .stepThen he (hk ▸ rfl) (.stepThen he2 (hk2 ▸ rfl) ((expression_consumes _).1 _ _ _ hex))

theorem args_go_consumes {fuel : Nat} {ts : List Tok} {acc as : List ANode} {rest : List Tok}
    (h : arguments.go fuel ts acc = .ok (as, rest)) : ClosedBy .rparen ts rest := by
  fun_induction arguments.go fuel ts acc with
  | case5 fuel ts acc a r harg hc rest1 hp => cases h; exact .of_close ((argument_consumes harg).trans (peek_comma_consumes hc)) hp
  | case6 fuel ts acc a r harg hc rest1 a' _ _ ih => exact .prepend ((argument_consumes harg).trans (peek_comma_consumes hc)) (ih h)
  | case7 fuel ts acc a r harg hp => cases h; exact .of_close (argument_consumes harg) hp
  | _ => cases h

theorem arguments_ok {ts : List Tok} {as : List ANode} {rest : List Tok} (h : arguments ts = .ok (as, rest)) :
    ∃ l r, ts = l :: r ∧ l.isErr = false ∧ l.kind = .lparen ∧
      (peek r = .ok (some .rparen) ∧ rest = r.drop 1 ∨ arguments.go (r.length + 1) r [] = .ok (as, rest)) := by
  unfold arguments at h
  split at h
  · cases h
  · rename_i l r hl
    obtain ⟨rfl, he, hk⟩ := expect_ok hl
    refine ⟨l, r, rfl, he, hk, ?_⟩
    split at h
    · cases h
    · rename_i hp; cases h; exact .inl ⟨hp, rfl⟩
    · exact .inr h

theorem arguments_consumes {ts : List Tok} {as : List ANode} {rest : List Tok} (h : arguments ts = .ok (as, rest)) : Consumes ts rest := by
  obtain ⟨l, r, rfl, he, hk, hc⟩ := arguments_ok h
  have ht : ClosedBy .rparen r rest := by
    rcases hc with ⟨hp, rfl⟩ | hgo
    · exact .of_close (Consumes.refl r) hp
    · exact args_go_consumes hgo
  exact ht.wrap he (.inr ⟨hk, rfl⟩)

/-- an accepted command: `NAME = NAME arguments` (the node carries the line of the second name) or `NAME arguments` -/
theorem command_ok {ts : List Tok} {c : CNode × Bool} {rest : List Tok} (h : command ts = .ok (c, rest)) :
    ∃ t r args, ts = t :: r ∧ t.isErr = false ∧ t.kind = .id ∧
      ((∃ e n r1, r = e :: n :: r1 ∧ e.isErr = false ∧ e.kind = .equal ∧ n.isErr = false ∧ n.kind = .id ∧
          arguments r1 = .ok (args, rest) ∧ c.1.line = n.line) ∨
       (arguments r = .ok (args, rest) ∧ c.1.line = t.line)) := by
  unfold command at h
  split at h  -- the first name
  · cases h
  · rename_i t r hid
    obtain ⟨rfl, he, hk⟩ := expect_ok hid
    split at h  -- the token behind it
    · cases h
    · rename_i hp  -- `=`: `NAME = NAME arguments`
      obtain ⟨e, r', rfl, he2, hk2⟩ := peek_some hp
      simp only [List.drop_succ_cons, List.drop_zero] at h
      split at h  -- the second name
      · cases h
      · rename_i n r1 hn
        obtain ⟨rfl, he3, hk3⟩ := expect_ok hn
        split at h  -- the arguments
        · cases h
        · rename_i args rest' hargs
          split at h  -- both names hold text
          · cases h; exact ⟨t, _, args, rfl, he, hk, .inl ⟨e, n, r1, rfl, he2, hk2, he3, hk3, hargs, rfl⟩⟩
          · cases h
    · split at h  -- anything else: `NAME arguments`
      · cases h
      · rename_i args rest' hargs
        split at h  -- the name holds text
        · cases h; exact ⟨t, r, args, rfl, he, hk, .inr ⟨hargs, rfl⟩⟩
        · cases h

theorem command_consumes {ts : List Tok} {c : CNode × Bool} {rest : List Tok} (h : command ts = .ok (c, rest)) : Consumes ts rest := by
  obtain ⟨t, r, args, rfl, he, hk, ⟨e, n, r1, rfl, he2, hk2, he3, hk3, ha, _⟩ | ⟨ha, _⟩⟩ := command_ok h
  · exact .stepThen he (hk ▸ rfl) (.stepThen he2 (hk2 ▸ rfl) (.stepThen he3 (hk3 ▸ rfl) (arguments_consumes ha)))
  · exact .stepThen he (hk ▸ rfl) (arguments_consumes ha)

theorem parse_go_neutral {fuel : Nat} {ts : List Tok} {acc : List CNode} {v2 : Bool} {p : PNode}
    (h : parseToks.go fuel ts acc v2 = .ok p) : Neutral ts := by
  fun_induction parseToks.go fuel ts acc v2 with
  | case3 fuel ts acc v2 c isV2 hc => obtain ⟨pre, rfl, hpre⟩ := command_consumes hc; simpa using hpre
  | case4 fuel ts acc v2 c isV2 rest hc _ ih => obtain ⟨pre, rfl, hpre⟩ := command_consumes hc; exact hpre.append (ih h)
  | _ => cases h

theorem parseToks_first {ts : List Tok} {p : PNode} (h : parseToks ts = .ok p) : ∃ c rest, command ts = .ok (c, rest) := by
  unfold parseToks at h
  rw [parseToks.go] at h
  split at h
  · cases h
  · rename_i c v rest hc; exact ⟨(c, v), rest, hc⟩

/-- **every accepted token list is a neutral stretch**: no error token, brackets and parentheses properly nested and closed -/
theorem accepted_neutral {ts : List Tok} {p : PNode} (h : parseToks ts = .ok p) : Neutral ts :=
  parse_go_neutral h

/-- an accepted text holds no token at which the lexer reported an illegal character, a bad escape or a value outside the model -/
theorem accepted_no_error_token {ts : List Tok} {p : PNode} (h : parseToks ts = .ok p) : ∀ t ∈ ts, t.isErr = false :=
  (accepted_neutral h).1

/-- in an accepted text every `[` has its `]` and every `(` its `)`, properly nested, and none is left open -/
theorem accepted_well_nested {ts : List Tok} {p : PNode} (h : parseToks ts = .ok p) : walk [] ts = some [] :=
  (accepted_neutral h).2 []

/-- **an illegal character, a bad escape or a value outside the model anywhere in the file makes the parser reject it**, whatever surrounds it -/
theorem error_token_rejected {ts : List Tok} (h : ∃ t ∈ ts, t.isErr = true) : ∀ p, parseToks ts ≠ .ok p := by
  intro p hp
  obtain ⟨t, ht, he⟩ := h
  rw [accepted_no_error_token hp t ht] at he
  cases he

/-- **a missing, surplus or crossed bracket or parenthesis makes the parser reject the file** -/
theorem unbalanced_rejected {ts : List Tok} (h : walk [] ts ≠ some []) : ∀ p, parseToks ts ≠ .ok p :=
  fun _ hp => h (accepted_well_nested hp)

/-- the same for texts: `Parser().parse(source)` succeeds only if the lexer met no illegal character and the brackets of the text are nested -/
theorem parse_ok_text (src : String) (p : PNode) (h : parse src = .ok p) :
    (∀ t ∈ lex src, t.isErr = false) ∧ walk [] (lex src) = some [] :=
  ⟨accepted_no_error_token h, accepted_well_nested h⟩

/-- the empty token list - the empty file, or one holding only comments and blank lines (`C10.lexS_gap`) - is a syntax error -/
theorem empty_rejected : parseToks [] = .error .syntax := by
  simp [parseToks, parseToks.go, command, expect]

/-- a file must start with a name: with any other first token it is rejected -/
theorem bad_start_rejected (t : Tok) (r : List Tok) (hk : t.kind ≠ .id) : ∀ p, parseToks (t :: r) ≠ .ok p := by
  intro p h
  obtain ⟨c, rest, hc⟩ := parseToks_first h
  obtain ⟨t', r', _, e, _, hk', _⟩ := command_ok hc
  cases e; exact hk hk'

def isSyntaxError : Except ParseErr PNode → Bool
  | .error .syntax => true
  | _ => false

def isAccepted : Except ParseErr PNode → Bool
  | .ok _ => true
  | _ => false

/-- non-vacuity and concrete malformed token lists: `A = B(X = [1, 2])` is accepted; with `)` for `]`, with a surplus `]`, without the
closing `)`, without `(`, without `=`, or with an illegal character in the list it is a syntax error -/
example :
    let i (s : String) : Tok := ⟨.id, .str s, 1⟩
    let n (k : Int) : Tok := ⟨.int, .int k, 1⟩
    let p (k : TokKind) : Tok := ⟨k, .none, 1⟩
    isAccepted (parseToks [i "A", p .equal, i "B", p .lparen, i "X", p .equal, p .lbrack, n 1, p .comma, n 2, p .rbrack, p .rparen]) = true ∧
    isSyntaxError (parseToks [i "A", p .equal, i "B", p .lparen, i "X", p .equal, p .lbrack, n 1, p .comma, n 2, p .rparen]) = true ∧
    isSyntaxError (parseToks [i "A", p .equal, i "B", p .lparen, i "X", p .equal, p .lbrack, n 1, p .rbrack, p .rbrack, p .rparen]) = true ∧
    isSyntaxError (parseToks [i "A", p .equal, i "B", p .lparen, i "X", p .equal, n 1]) = true ∧
    isSyntaxError (parseToks [i "A", p .equal, i "B", i "X", p .equal, n 1, p .rparen]) = true ∧
    isSyntaxError (parseToks [i "A", p .equal, i "B", p .lparen, i "X", n 1, p .rparen]) = true ∧
    isSyntaxError (parseToks [i "A", p .equal, i "B", p .lparen, i "X", p .equal, p .lbrack, n 1, p .comma, p .errIllegal, p .rbrack, p .rparen]) = true ∧
    walk [] [i "A", p .equal, i "B", p .lparen, i "X", p .equal, p .lbrack, n 1, p .comma, n 2, p .rbrack, p .rparen] = some [] ∧
    walk [] [i "A", p .equal, i "B", p .lparen, i "X", p .equal, p .lbrack, n 1, p .comma, n 2, p .rparen] = none := by
  decide +kernel

end MPilot.C10R
