/-
C09 — computed results are immutable: commands never modify their inputs.

In the pure model `exec` inputs cannot change by construction; the content of this property is therefore carried by
(1) the heap model `execH`, which makes the two identity-relevant behaviours of the bodies explicit (aliasing of a single
input, the in-place clamp), and (2) the correspondence, which snapshots every live array before/after every real `execute`.
-/
import MPilot.Props.C04
import MPilot.Model.EemsHeap

namespace MPilot.C09

/-- a fold over a single input returns it unchanged, whatever the operation: single-input Minimum / Maximum, and the fuzzy pair before its clamp -/
theorem naryFold_single (ref : LineRef) (g : Rat → Rat → Rat) (a : Arr) : naryFold ref g [a] = .ok a := by
  simp only [naryFold, validateShapes, promoteAll, List.foldl_cons, List.foldl_nil, foldArr, bind, Except.bind]
  -- the fold gives its first operand the type `DType.int.promote a.dtype`, which is `a.dtype` for each of the two types
  cases a with
  | mk dt sh cs => cases dt <;> rfl

/-- what the four commands that hand back their single input do to it: nothing, or the final clamp of the fuzzy pair - which changes nothing
visible on a fuzzy field -/
theorem alias_result (sqrt : Rat → Rat) {c : DataCmd} (hal : aliases c 1 = true) {a r : Arr} (hr : exec sqrt c [a] = .ok r)
    (hfz : (c = .fuzzyOr ∨ c = .fuzzyAnd) → C04.InFuzzyRange a) : ArrR r a := by
  -- the four arms of `aliases`, in its order: Minimum, Maximum, FuzzyOr, FuzzyAnd; the fifth is every other command, where `hal` is false
  unfold aliases at hal
  split at hal <;> [skip; skip; skip; skip; cases hal]
  all_goals
    dsimp only [exec] at hr
    rw [naryFold_single] at hr
    cases hr
  exacts [ArrR.refl _, ArrR.refl _, C06.insure_inrange a (hfz (Or.inl rfl)), C06.insure_inrange a (hfz (Or.inr rfl))]

theorem execH_ok {sqrt : Rat → Rat} {c : DataCmd} {ids : List ObjId} {h h' : Heap} {rid : ObjId} (hx : execH sqrt c ids h = .ok (rid, h')) :
    ∃ xs r, ids.mapM (fun id => h[id]?) = some xs ∧ exec sqrt c xs = .ok r ∧
      ((rid = h.length ∧ h' = h ++ [r]) ∨ (aliases c 1 = true ∧ ids = [rid] ∧ ∃ a, h[rid]? = some a ∧ xs = [a] ∧ h' = h.set rid r)) := by
  unfold execH at hx
  cases hxs : ids.mapM (fun id => h[id]?) with
  | none => rw [hxs] at hx; cases hx
  | some xs =>
    cases hr : exec sqrt c xs with
    | error e => simp only [hxs, hr] at hx; cases hx
    | ok r =>
      simp only [hxs, hr] at hx
      refine ⟨xs, r, rfl, hr, ?_⟩
      split at hx
      · rename_i hal
        split at hx
        · cases hx
          cases ha : h[rid]? with
          | none => simp [ha] at hxs
          | some a => exact .inr ⟨hal, rfl, a, rfl, by simpa [ha] using hxs.symm, rfl⟩
        · cases hx
      · cases hx; exact .inl ⟨rfl, rfl⟩

/-- **C09, one step.** Executing any data command on objects of the heap leaves every existing object visibly unchanged
(shape, element type, missing cells, non-missing values), provided the inputs of the fuzzy pair are fuzzy values —
which C04 guarantees for every fuzzy result a program can produce. -/
theorem execH_preserves (sqrt : Rat → Rat) (c : DataCmd) (ids : List ObjId) (h h' : Heap) (rid : ObjId)
    (hfz : (c = .fuzzyOr ∨ c = .fuzzyAnd) → ∀ id : ObjId, id ∈ ids → ∀ a, h[id]? = some a → C04.InFuzzyRange a)
    (hx : execH sqrt c ids h = .ok (rid, h')) :
    ∀ (id : ObjId) (a : Arr), h[id]? = some a → ∃ a', h'[id]? = some a' ∧ ArrR a' a := by
  intro j a hj
  have hlt : j < h.length := (List.getElem?_eq_some_iff.mp hj).1
  obtain ⟨xs, r, -, hr, ⟨-, rfl⟩ | ⟨hal, rfl, a0, ha0, rfl, rfl⟩⟩ := execH_ok hx
  · exact ⟨a, by rw [List.getElem?_append_left hlt]; exact hj, ArrR.refl a⟩
  · by_cases hji : j = rid
    · subst hji
      obtain rfl : a0 = a := Option.some.inj (ha0.symm.trans hj)
      exact ⟨r, by rw [List.getElem?_set_self hlt],
        alias_result sqrt hal hr fun hc => hfz hc j (List.mem_singleton_self j) a0 hj⟩
    · exact ⟨a, by rw [List.getElem?_set_ne (Ne.symm hji)]; exact hj, ArrR.refl a⟩

/-- the result object of the heap semantics is what the pure semantics computes: `execH` refines `exec` -/
theorem execH_refines (sqrt : Rat → Rat) (c : DataCmd) (ids : List ObjId) (h h' : Heap) (rid : ObjId) (xs : List Arr)
    (hxs : ids.mapM (fun id => h[id]?) = some xs) (hx : execH sqrt c ids h = .ok (rid, h')) :
    ∃ r, exec sqrt c xs = .ok r ∧ h'[rid]? = some r := by
  obtain ⟨xs', r, hxs', hr, hcase⟩ := execH_ok hx
  obtain rfl : xs' = xs := Option.some.inj (hxs'.symm.trans hxs)
  refine ⟨r, hr, ?_⟩
  rcases hcase with ⟨rfl, rfl⟩ | ⟨-, -, a, ha, -, rfl⟩
  · exact List.getElem?_concat_length
  · exact List.getElem?_set_self (List.getElem?_eq_some_iff.mp ha).1

/-- non-vacuity: single-input FuzzyOr on an in-range object returns the same object id, heap visibly unchanged -/
example : execH (fun x => x) .fuzzyOr [0] [⟨.float, [2], [⟨1/2, false⟩, ⟨7, true⟩]⟩] =
    .ok (0, [⟨.float, [2], [⟨1/2, false⟩, ⟨fillValue, true⟩]⟩]) := by decide +kernel

end MPilot.C09
