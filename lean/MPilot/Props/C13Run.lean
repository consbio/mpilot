/-
C13 — the whole of `Program.run()`: no bare exception leaves it.

`runCmd_not_raw`, `prepassCmd_not_raw` (Props/C13.lean) speak about the parts; here they are assembled.  When the error is raised by the program
layer itself (validation, the cycle check; for loading see `C13E.load_errors_declared`) its class is one of the declared `ProgramError` classes of
the regenerated exception table (`Generated/ErrTable.lean`) - so the command-line tool reports it with its line (`C13Cli.mp_error_reported`,
`marks_offending_line`).
-/
import MPilot.Props.C13
import MPilot.Props.C13Err
import MPilot.Props.C20

namespace MPilot.C13

variable {Val : Type}

/-- no argument of the program falls outside the model's cleaning domain (text forms of floats / containers, inf / nan) under this context -/
def InDomain (ctx : Ctx) (cmds : List PCmd) : Prop :=
  ∀ c ∈ cmds, ∀ a ∈ c.args, ∀ i, c.decl.input? a.name = some i → clean ctx i.spec a.value ≠ .error "OutsideModel"

theorem prepass_not_raw (ctx : Ctx) : ∀ (cmds : List PCmd) (e : PErr), InDomain ctx cmds → prepass ctx cmds = .error e → PErr.isRaw e = false := by
  intro cmds e hdom h
  obtain ⟨c, hc, he⟩ := (prepass_outcome ctx cmds).2 e h
  exact prepassCmd_not_raw ctx c c.args e (hdom c hc) he

theorem go_not_raw (sem : Sem Val) (p : Program) : ∀ (leaves : List PCmd) (st st' : St Val) (e : PErr),
    (∀ c ∈ leaves, (p.find? c.resultName).isSome = true) → run.go sem p leaves st = (st', some e) → PErr.isRaw e = false := by
  intro leaves st
  fun_induction run.go sem p leaves st with
  | case1 => nofun
  | case2 c rest s s' e' he => intro st' e hl h; cases h; exact runCmd_not_raw sem p _ s _ _ _ (hl c List.mem_cons_self) he
  | case3 c rest s s' he ih => exact fun st' e hl h => ih st' e (fun c' hc' => hl c' (List.mem_cons_of_mem _ hc')) h

/-- **`Program.run()` lets no bare exception out**: whatever it ends with - a rejected argument, a circular model, a body that fails with any
exception at all (modelled as `raw`: it is wrapped), an input that fails - inside the model's cleaning domain the error that leaves `run()` is not
`raw`: an MPilotError, or - not excluded, hence `hsyn` in `cli_reports_run_errors` - a `syntax` returned by a body's `compute` -/
theorem run_not_raw (sem : Sem Val) (p : Program) (st st' : St Val) (e : PErr) (hdom : InDomain (mkCtx sem p st) p.cmds)
    (h : run sem p st = (st', some e)) : PErr.isRaw e = false := by
  obtain ⟨e', he', hr⟩ | ⟨_, _, _, hr⟩ | ⟨info, _, _, hr⟩ := run_outcome sem p st
  · cases hr.symm.trans h; exact prepass_not_raw _ p.cmds _ hdom he'
  · cases hr.symm.trans h; rfl
  · exact go_not_raw sem p _ st st' e (fun c hc => Program.find?_of_mem (List.mem_filter.mp hc).1) (hr ▸ h)

/-- an error of the program layer itself - a rejected argument or a circular model - is an instance of a declared `ProgramError` class -/
theorem run_rejection_declared (sem : Sem Val) (p : Program) (st : St Val) (e : PErr) (hdom : InDomain (mkCtx sem p st) p.cmds)
    (h : (match prepass (mkCtx sem p st) p.cmds with
          | .error e => some e
          | .ok info => if hasCycle p (depsOf info) then some (PErr.mp "RecursiveModelStructure" none) else none) = some e) :
    ∃ cls line, e = .mp cls line ∧ (cls, true, true) ∈ Generated.errClasses := by
  split at h
  · rename_i e' he'
    cases h
    -- a validation error carries the class of the cleaning failure: one of the parameter errors
    obtain ⟨c, hc, a, ha, i, ce, hi, hce, rfl⟩ := C11.prepass_error_line _ _ _ he'
    have hne : ce ≠ "OutsideModel" := fun heq => hdom c hc a ha i hi (heq ▸ hce)
    refine ⟨ce, a.line, C11.cleanErr_line ce a.line hne, C13E.program_errors_declared ce ?_⟩
    rcases C20.clean_err_is_param_error _ _ _ _ hce with rfl | rfl | rfl | rfl | rfl | rfl | rfl | rfl
    all_goals first | exact absurd rfl hne | simp [C13E.programModelClasses]
  · split at h
    · cases h
      exact ⟨_, _, rfl, C13E.program_errors_declared _ (by simp [C13E.programModelClasses])⟩
    · cases h

end MPilot.C13
