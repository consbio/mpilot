/-
C11 — line numbers in parse trees and errors are the true source lines.

In the model a parse is a *function of the text*: `parse : String → Except ParseErr PNode` takes no parser state, so "regardless of what
the same process or parser object parsed before" holds by construction; that the real `Parser` behaves like this function after any
history of earlier parses is what the correspondence checks (0-3 earlier parses on the same object, earlier loads in the process).

This file: how the lexer numbers lines, read off `Lex.scanOne_step` (Lemmas/Scan).  Every token carries the line on which it *starts* and the
counter never runs backwards, so the lines of the token list are non-decreasing and never before the starting line; a line break is counted
once whether written LF, CR or CRLF, also inside quoted strings.  Props/C11Exact sharpens this to the exact line; the line a load error or a
validation error carries is Props/C11Load.
-/
import MPilot.Lemmas.LexString

namespace MPilot.C11

/-- test vectors of `countNewlines`: a line break counts once however it is written -/
theorem newline_counts :
    countNewlines ['\n'] = 1 ∧ countNewlines ['\r'] = 1 ∧ countNewlines ['\r', '\n'] = 1 ∧ countNewlines ['\n', '\n'] = 2 ∧
    countNewlines ['\r', '\n', '\r', '\n'] = 2 ∧ countNewlines ['a', '\r', '\n', 'b', '\n'] = 2 := by
  decide

/-- a token carries the line at which its scanning step started, and the counter does not run backwards -/
theorem scanOne_tok_line (cs : List Char) (line : Nat) (t : Tok) (rest : List Char) (line' : Nat)
    (h : scanOne cs line = .tok t rest line') : t.line = line ∧ line ≤ line' := by
  cases cs with
  | nil => cases h
  | cons c r =>
    obtain ⟨h1, n, _, rfl⟩ := Lex.step_tok h
    exact ⟨h1, Nat.le_add_right _ _⟩

theorem scanOne_skip_line (cs : List Char) (line : Nat) (rest : List Char) (line' : Nat)
    (h : scanOne cs line = .skip rest line') : line ≤ line' := by
  cases cs with
  | nil => cases h; exact Nat.le_refl _
  | cons c r =>
    obtain ⟨n, _, rfl⟩ := Lex.step_skip h
    exact Nat.le_add_right _ _

theorem scanOne_stop_line (cs : List Char) (line : Nat) (t : Tok) (h : scanOne cs line = .stop t) : t.line = line := by
  cases cs with
  | nil => cases h
  | cons c r => exact Lex.step_stop h

/-- **lines along the token stream**: no token lies before the line the scan started on, and lines never decrease from one token to the next -/
theorem lexAll_lines : ∀ (fuel : Nat) (cs : List Char) (line : Nat),
    (∀ t ∈ lexAll fuel cs line, line ≤ t.line) ∧ (lexAll fuel cs line).Pairwise (fun a b => a.line ≤ b.line) := by
  intro fuel cs line
  fun_induction lexAll fuel cs line with
  | case1 => simp
  | case2 => simp
  | case3 fuel c r line _ ih => exact ih
  | case4 fuel c r line _ t rest line' hs ih =>
    obtain ⟨rfl, hle⟩ := scanOne_tok_line _ _ _ _ _ hs
    have hall : ∀ x ∈ lexAll fuel rest line', t.line ≤ x.line := fun x hx => Nat.le_trans hle (ih.1 x hx)
    exact ⟨List.forall_mem_cons.mpr ⟨Nat.le_refl _, hall⟩, List.pairwise_cons.mpr ⟨hall, ih.2⟩⟩
  | case5 fuel c r line _ rest line' hs ih =>
    exact ⟨fun x hx => Nat.le_trans (scanOne_skip_line _ _ _ _ hs) (ih.1 x hx), ih.2⟩
  | case6 fuel c r line _ t hs =>
    exact ⟨by simp [scanOne_stop_line _ _ _ hs], by simp⟩

/-- no token lies before line 1: `lex` starts counting at 1 (that a token on the first line carries exactly 1 is `C11X.lex_line_exact`) -/
theorem lex_starts_at_one (src : String) : ∀ t ∈ lex src, 1 ≤ t.line := (lexAll_lines _ _ 1).1

/-- a quoted string that spans lines advances the counter by the line breaks it contains (the token itself keeps its starting line) -/
theorem quoted_newlines_counted (q : Char) (hq : q = '"' ∨ q = '\'') (r content rest : List Char) (v : List Char) (line : Nat)
    (hs : scanStringBody q r [] = some (content, rest)) (hv : stringValue content = .ok v) :
    scanOne (q :: r) line = .tok ⟨.string, .str (String.ofList v), line⟩ rest (line + countNewlines content) := by
  rw [Lex.scanOne_string hq line hs, hv]

end MPilot.C11
