/-
C13, the run and the tool put together: what `Program.run()` ends with, as the command-line tool reports it.  Loading is not part of it: in
`cli_reports_run_errors` the program `p` and the file text are independent parameters.

`run_not_raw` (Props/C13Run.lean) says that no bare exception leaves `Program.run()`; `mp_error_reported` (Props/C13Cli.lean) says how the tool
reports an MPilot error.  `outcomeOf` is the glue the tool's `try / except MPilotError` performs: an MPilot error - whether it carries a line the
tool may mark is read off the regenerated exception table - is reported, anything else escapes.  The text of an error (`msg`) is a parameter:
messages are not modelled.
-/
import MPilot.Props.C13Run
import MPilot.Props.C13Cli

namespace MPilot.C13
open MPilot.Cli

variable {Val : Type}

/-- is `cls` a `ProgramError` according to the regenerated table (classes the table does not know count as plain MPilot errors) -/
def isProgramErrorClass (cls : String) : Bool :=
  match Generated.errClasses.find? (·.1 == cls) with
  | some (_, _, isProg) => isProg
  | none => false

/-- the tool's `try: ... except MPilotError as ex:` seen from the model -/
def outcomeOf (msg : PErr → List Char) : Option PErr → Outcome
  | none => .done
  | some (.mp cls line) => .mpError (msg (.mp cls line)) (isProgramErrorClass cls) line
  | some (.unexpected exc line) => .mpError (msg (.unexpected exc line)) (isProgramErrorClass "UnexpectedError") line
  | some (.raw e) => .other e
  | some .syntax => .other "SyntaxError"

def PErr.line? : PErr → Option Nat
  | .mp _ l => l
  | .unexpected _ l => l
  | _ => none

/-- **a failing run is reported by the tool**: for every program, every behaviour of the bodies and every file text, when `Program.run()` fails
(inside the model's cleaning domain, with an error that is no `syntax` and names no line or a line of the file) the tool exits with status -1,
no exception escapes it, and standard error starts with the header line and the error's own text -/
theorem cli_reports_run_errors (sem : Sem Val) (p : Program) (st st' : St Val) (e : PErr) (msg : PErr → List Char) (path text : List Char)
    (hdom : InDomain (mkCtx sem p st) p.cmds) (hrun : run sem p st = (st', some e)) (hsyn : e ≠ .syntax)
    (hline : ∀ n, PErr.line? e = some n → 1 ≤ n ∧ n ≤ (fileLines text).length) :
    let r := main true path text (fun _ => outcomeOf msg (some e))
    r.exit = -1 ∧ r.exit ≠ 0 ∧ r.crash = none ∧ (header ++ '\n' :: msg e ++ ['\n']) <+: r.stderr := by
  have hraw := run_not_raw sem p st st' e hdom hrun
  -- what is left of the errors is caught by the tool's `except MPilotError`
  obtain ⟨b, hb⟩ : ∃ b, outcomeOf msg (some e) = .mpError (msg e) b (PErr.line? e) := by
    cases e with
    | raw x => cases hraw
    | «syntax» => exact absurd rfl hsyn
    | mp cls line => exact ⟨_, rfl⟩
    | unexpected exc line => exact ⟨_, rfl⟩
  exact C13Cli.mp_error_reported path text (msg e) b (PErr.line? e) _ hb fun n _ hl => hline n hl

/-- a run that succeeds: exit status 0, nothing on standard error -/
theorem cli_silent_on_success (msg : PErr → List Char) (path text : List Char) :
    main true path text (fun _ => outcomeOf msg none) = { exit := 0, stderr := [], crash := none } :=
  C13Cli.success_silent path text _ rfl

/-- every name of the two hand-written lists `programModelClasses`, `eemsModelClasses` is a `ProgramError` in the regenerated table, so `outcomeOf`
hands it to the tool as an error whose line may be marked -/
theorem program_errors_are_marked : ∀ cls ∈ C13E.programModelClasses ++ C13E.eemsModelClasses, isProgramErrorClass cls = true :=
  fun cls h => by rw [isProgramErrorClass, C13E.found_as_program_error cls h]

end MPilot.C13
