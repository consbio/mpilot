/-
C13 — only declared error types escape, and the CLI reports them.

`PErr` distinguishes `mp` (an MPilotError subclass), `unexpected` (UnexpectedError, itself an MPilotError), `syntax`
(SyntaxError) and `raw` (any other exception type).  The theorems say where `raw` can and cannot come from in the model.
A theorem can only range over exception sources the model contains; discovering a new source in the code is the job of the
correspondence (any outcome class at the API boundary that the model does not predict is a disagreement).
-/
import MPilot.Props.C11Load

namespace MPilot.C13

variable {Val : Type}

def PErr.isRaw : PErr → Bool
  | .raw _ => true
  | _ => false

/-- what leaves `Command.run` is never `raw`: a bare exception is wrapped (`UnexpectedError`); `mp`, `unexpected` and `syntax` pass as they are -/
theorem wrapRun_not_raw (line : Option Nat) (e : PErr) : PErr.isRaw (wrapRun line e) = false := by
  cases e <;> rfl

/-- **`Command.run()` never lets a bare exception escape**: for a command of the program, whatever happens in parameter
validation, in the bodies of the commands it reads, or in its own body, the error that leaves is not `raw`: an MPilotError, or - not
excluded - a `syntax` returned by a body's `compute`, which `wrapRun` passes on -/
theorem runCmd_not_raw (sem : Sem Val) (p : Program) (fuel : Nat) (st st' : St Val) (n : String) (e : PErr)
    (hn : (p.find? n).isSome = true) (h : runCmd sem p fuel st n = (st', some e)) : PErr.isRaw e = false := by
  revert h
  fun_cases runCmd sem p fuel st n <;> intro h <;> cases h
  case case1 => rfl                               -- no fuel: an `UnexpectedError`
  case case3 hf _ => rw [hf] at hn; cases hn      -- an unknown name: excluded by `hn`
  -- the error of the validation, of the reads or of the computation: each leaves through `wrapRun`
  all_goals exact wrapRun_not_raw _ _

/-- load-time rejections are not `raw` (each is an `mp` of a declared class: `C13E.load_errors_declared`) -/
theorem fromNodes_not_raw (lib : String → Option CmdDecl) : ∀ (nodes : List Node) (p : Program) (e : PErr),
    fromNodes lib p nodes = .error e → PErr.isRaw e = false := by
  intro nodes p e h
  obtain ⟨n, _, hn⟩ := C11.load_error_line lib nodes p e h
  cases hn <;> rfl

/-- the error of the pre-pass is not `raw` (it is a parameter error, an `mp`: `C11.cleanErr_line`) — provided cleaning stays inside the
model's domain (no `OutsideModel` marker: text forms of floats/containers, inf/nan) -/
theorem prepassCmd_not_raw (ctx : Ctx) (c : PCmd) : ∀ (args : List Arg) (e : PErr),
    (∀ a ∈ args, ∀ i, c.decl.input? a.name = some i → clean ctx i.spec a.value ≠ .error "OutsideModel") →
    prepassCmd ctx c args = .error e → PErr.isRaw e = false := by
  intro args e hdom h
  obtain ⟨a, ha, i, ce, hi, hce, rfl⟩ := C11.prepassCmd_error_line ctx c args e h
  rw [C11.cleanErr_line ce a.line fun heq => hdom a ha i hi (heq ▸ hce)]
  rfl

end MPilot.C13
