/-
C18 — NetCDF reading and writing are faithful (partial by nature).

What a theorem can carry here is the command logic on top of the library: the union mask on writing, the optional read parameters.
That the netCDF4/HDF5 library returns what was assigned (storage, compression, fill values, attribute copying, CRS discovery) is
assumed in the model and validated only by the correspondence and the faithfulness oracles on generated files.
-/
import MPilot.Model.NetCdf
import Mathlib.Data.List.Induction

namespace MPilot.C18

theorem getElem?_cells {b : Arr} {n i : Nat} (hb : b.cells.length = n) (hi : i < n) : b.cells[i]? = some (b.cells.getD i default) := by
  subst hb
  rw [List.getElem?_eq_getElem hi, List.getElem_eq_getD default]

theorem unionMask_snoc (a : Arr) (rest : List Arr) (b : Arr) :
    unionMask (a :: (rest ++ [b])) = List.zipWith (· || ·) (unionMask (a :: rest)) (b.cells.map (·.mask)) := by
  simp [unionMask, List.foldl_append]

theorem unionMask_length_getElem? (a : Arr) (n : Nat) (ha : a.cells.length = n) : ∀ (rest : List Arr), (∀ b ∈ rest, b.cells.length = n) →
    (unionMask (a :: rest)).length = n ∧
    ∀ i, i < n → (unionMask (a :: rest))[i]? = some ((a :: rest).any fun b => (b.cells.getD i default).mask) := by
  intro rest
  induction rest using List.reverseRecOn with
  | nil =>
    intro _
    refine ⟨by simp [unionMask, ha], fun i hi => ?_⟩
    rw [unionMask, List.foldl_nil, List.getElem?_map, getElem?_cells ha hi, List.any_cons, List.any_nil, Bool.or_false]; rfl
  | append_singleton rest b ih =>
    intro hr
    obtain ⟨hl, hs⟩ := ih fun x hx => hr x (List.mem_append_left _ hx)
    have hb := hr b (by simp)
    rw [unionMask_snoc]
    refine ⟨by simp [hl, hb], fun i hi => ?_⟩
    rw [List.getElem?_zipWith, hs i hi, List.getElem?_map, getElem?_cells hb hi, ← List.cons_append, List.any_append]
    simp

/-- **the mask written**: a cell is missing in the file exactly where some result written together with it is missing -/
theorem unionMask_spec (a : Arr) (rest : List Arr) (n i : Nat) (ha : a.cells.length = n) (hr : ∀ b ∈ rest, b.cells.length = n) (hi : i < n) :
    (unionMask (a :: rest))[i]? = some ((a :: rest).any fun b => (b.cells.getD i default).mask) :=
  (unionMask_length_getElem? a n ha rest hr).2 i hi

/-- **what is written**: each variable keeps the shape, the element type and every value of its result; only the mask is replaced by the union -/
theorem ncWrite_spec (rs : List Arr) :
    (ncWrite rs).length = rs.length ∧
    ∀ (j : Nat) (a : Arr), rs[j]? = some a → ∃ w : Arr, (ncWrite rs)[j]? = some w ∧ w.shape = a.shape ∧ w.dtype = a.dtype ∧
      w.cells = List.zipWith (fun (c : Cell) mk => (⟨c.val, mk⟩ : Cell)) a.cells (unionMask rs) := by
  unfold ncWrite
  refine ⟨by simp, ?_⟩
  intro j a hj
  refine ⟨{ a with cells := List.zipWith (fun (c : Cell) mk => (⟨c.val, mk⟩ : Cell)) a.cells (unionMask rs) }, ?_, rfl, rfl, rfl⟩
  simp [hj]

/-- a variable that does not exist is reported as such -/
theorem read_no_such_variable (ty : NcType) (m : Option Rat) : ncRead none ty m = .error .noSuchVariable := rfl

/-- **float by default, and faithful**: read with the default type and no missing value, the array comes back with its shape, as floats,
with the library's missing cells and every other value unchanged -/
theorem read_default (v : Arr) : ∃ r, ncRead (some v) .float none = .ok r ∧ r.dtype = .float ∧ r.shape = v.shape ∧ r.vis = v.vis := by
  refine ⟨_, rfl, rfl, rfl, ?_⟩
  simp only [Arr.vis, List.map_map]
  apply List.map_congr_left
  intro c _
  cases hm : c.mask <;> simp [Cell.vis, hm, NcType.isInt]

/-- **positive check**: a positive type refuses data with a negative valid value -/
theorem read_positive_check (v : Arr) (ty : NcType) (m : Option Rat) (hty : ty = .positiveInteger ∨ ty = .positiveFloat)
    (hneg : v.valid.any (· < 0) = true) : ncRead (some v) ty m = .error .invalidPositiveData := by
  unfold ncRead
  rcases hty with rfl | rfl <;> simp [hneg]

/-- **fuzzy check**: the Fuzzy type refuses data outside the padded fuzzy range -/
theorem read_fuzzy_check (v : Arr) (m : Option Rat) (hout : v.valid.any (fun q => q > fuzzyPadMax || q < -fuzzyPadMax) = true) :
    ncRead (some v) .fuzzy m = .error .invalidFuzzyData := by
  unfold ncRead
  simp [hout]

/-- **missing value**: with the Float type, a cell is missing after the read exactly when the library marks it missing or its value equals `MissingValue` -/
theorem read_missing_value_mask (v : Arr) (mv : Rat) :
    ∃ r, ncRead (some v) .float (some mv) = .ok r ∧
      r.cells.map (·.mask) = v.cells.map fun c => c.mask || (c.val == mv) := by
  refine ⟨_, rfl, ?_⟩
  simp only [List.map_map]
  apply List.map_congr_left
  intro c _
  simp [NcType.isInt]

/-- **C18, write then read back.**  Results of one grid (`n` cells each) are written together; the `j`-th variable is then read with the default options.
What comes back has the result's shape and, cell by cell, is missing exactly where *some* result written with it is missing and holds the result's own
value everywhere else.  (The library is assumed to return what was assigned - see the header of `Model/NetCdf`.) -/
theorem write_read_round_trip (a0 : Arr) (rest : List Arr) (n : Nat) (h0 : a0.cells.length = n) (hr : ∀ b ∈ rest, b.cells.length = n)
    (j : Nat) (a : Arr) (hj : (a0 :: rest)[j]? = some a) :
    ∃ w r, (ncWrite (a0 :: rest))[j]? = some w ∧ ncRead (some w) .float none = .ok r ∧ r.shape = a.shape ∧ r.dtype = .float ∧ r.vis.length = n ∧
      ∀ i, i < n → r.vis[i]? = some (if (a0 :: rest).any (fun b => (b.cells.getD i default).mask) then none else some (a.cells.getD i default).val) := by
  obtain ⟨_, hw⟩ := ncWrite_spec (a0 :: rest)
  obtain ⟨w, hwj, hws, _, hwc⟩ := hw j a hj
  obtain ⟨r, hrd, hrt, hrs, hrv⟩ := read_default w
  have ha : a.cells.length = n := by
    rcases List.mem_cons.mp (List.mem_of_getElem? hj) with rfl | hm
    · exact h0
    · exact hr a hm
  have hul := (unionMask_length_getElem? a0 n h0 rest hr).1
  refine ⟨w, r, hwj, hrd, by rw [hrs, hws], hrt, ?_, ?_⟩
  · rw [hrv]; simp [Arr.vis, hwc, ha, hul]
  · intro i hi
    rw [hrv]
    have hu := unionMask_spec a0 rest n i h0 hr hi
    simp only [Arr.vis, hwc, List.getElem?_map, List.getElem?_zipWith, getElem?_cells ha hi, hu, Option.map_some, Option.some.injEq]
    cases hany : (a0 :: rest).any (fun b => (b.cells.getD i default).mask) <;> simp [Cell.vis]

/-- in particular a result written alone comes back exactly as it was seen: same shape, same missing cells, same values -/
theorem write_alone_read_back (a : Arr) : ∃ w r, ncWrite [a] = [w] ∧ ncRead (some w) .float none = .ok r ∧ r.shape = a.shape ∧ r.vis = a.vis := by
  obtain ⟨r, hr, _, hs, hv⟩ := read_default { a with cells := List.zipWith (fun c mk => (⟨c.val, mk⟩ : Cell)) a.cells (unionMask [a]) }
  refine ⟨_, r, rfl, hr, hs, hv.trans ?_⟩
  simp [Arr.vis, unionMask, List.zipWith_map_right]

/-- non-vacuity: two results with different missing cells -/
example : ∃ w r, (ncWrite [⟨.float, [2], [⟨1, false⟩, ⟨2, true⟩]⟩, ⟨.float, [2], [⟨3, true⟩, ⟨4, false⟩]⟩])[1]? = some w ∧
    ncRead (some w) .float none = .ok r ∧ r.vis = [none, none] := ⟨_, _, rfl, rfl, by decide +kernel⟩

/-- rounding to an integer type is to nearest, ties to even -/
example : rintRat (5/2) = 2 ∧ rintRat (7/2) = 4 ∧ rintRat (-5/2) = -2 ∧ rintRat (13/10) = 1 ∧ rintRat (-17/10) = -2 ∧ rintRat 3 = 3 := by
  decide +kernel

end MPilot.C18
