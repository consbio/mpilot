/-
C08 — fuzzy conversions and normalisations compute their documented mappings.
-/
import MPilot.Lemmas.Stats
import MPilot.Lemmas.List
import Mathlib.Data.List.Sort
import Mathlib.Data.Prod.Lex
import Mathlib.Tactic.FieldSimp
import Mathlib.Tactic.Ring
-- `norm_num` is there without the next import too (FieldSimp brings its core), but without the extensions it registers the calls below are slower to check
import Mathlib.Tactic.NormNum

namespace MPilot.C08

/-! ### the linear map through two points (`CvtToFuzzy`, `CvtFromFuzzy`, z-score maps) -/

/-- value that `linMap x1 x2 y1 y2` leaves in a present cell -/
def lin (x1 x2 y1 y2 x : Rat) : Rat := (x - x1) * (y2 - y1) / (x2 - x1) + y1

theorem vis_linMap {x1 x2 y1 y2 : Rat} (h : x2 - x1 ≠ 0) (a : Arr) :
    (linMap x1 x2 y1 y2 a).vis = a.vis.map (Option.map (lin x1 x2 y1 y2)) := by
  refine Arr.vis_mapCells (f := fun c => Cell.sc (· + y1) (Cell.divSc (x2 - x1) (Cell.sc (· * (y2 - y1)) (Cell.sc (· - x1) c)))) (fun c => ?_) a
  rw [Cell.sc_vis, Cell.divSc_vis, if_neg (by simpa using h), Cell.sc_vis, Cell.sc_vis, Option.map_map, Option.map_map, Option.map_map]
  rfl

theorem lin_at_x1 (x1 x2 y1 y2 : Rat) : lin x1 x2 y1 y2 x1 = y1 := by simp [lin]
theorem lin_at_x2 (x1 x2 y1 y2 : Rat) (h : x2 - x1 ≠ 0) : lin x1 x2 y1 y2 x2 = y2 := by
  rw [lin, mul_div_cancel_left₀ _ h, sub_add_cancel]

/-- `lin` in slope form: it rises or falls with `x` according to the sign of `(y2 - y1) / (x2 - x1)` -/
theorem lin_slope (x1 x2 y1 y2 x : Rat) : lin x1 x2 y1 y2 x = (x - x1) * ((y2 - y1) / (x2 - x1)) + y1 := by
  unfold lin; rw [mul_div_assoc]

theorem lin_mono {x1 x2 y1 y2 : Rat} (hs : 0 ≤ (y2 - y1) / (x2 - x1)) {x y : Rat} (hxy : x ≤ y) :
    lin x1 x2 y1 y2 x ≤ lin x1 x2 y1 y2 y := by
  rw [lin_slope, lin_slope]
  exact add_le_add_left (mul_le_mul_of_nonneg_right (sub_le_sub_right hxy _) hs) _

theorem lin_anti {x1 x2 y1 y2 : Rat} (hs : (y2 - y1) / (x2 - x1) ≤ 0) {x y : Rat} (hxy : x ≤ y) :
    lin x1 x2 y1 y2 y ≤ lin x1 x2 y1 y2 x := by
  rw [lin_slope, lin_slope]
  exact add_le_add_left (mul_le_mul_of_nonpos_right (sub_le_sub_right hxy _) hs) _

/-- `CvtToFuzzy`'s mapping of a present value: line through (true threshold, +1), (false threshold, −1), clamped -/
def toFuzzyVal (t f x : Rat) : Rat := clampHiLo (-1) 1 (lin t f 1 (-1) x)

/-- the line of `toFuzzyVal` rises when the true threshold is the larger one and falls when it is the smaller -/
theorem toFuzzy_slope_nonneg {t f : Rat} (hft : f < t) : 0 ≤ (-1 - 1) / (f - t) := by
  rw [← neg_div_neg_eq]; exact div_nonneg (by norm_num) (neg_nonneg.mpr (sub_nonpos.mpr hft.le))
theorem toFuzzy_slope_nonpos {t f : Rat} (htf : t < f) : (-1 - 1) / (f - t) ≤ 0 :=
  div_nonpos_of_nonpos_of_nonneg (by norm_num) (sub_nonneg.mpr htf.le)

/-- the true threshold maps to +1 and the false threshold to −1 -/
theorem toFuzzy_true (t f : Rat) : toFuzzyVal t f t = 1 := by
  unfold toFuzzyVal; rw [lin_at_x1]; exact clampHiLo_of_mem (by norm_num) le_rfl
theorem toFuzzy_false (t f : Rat) (h : t ≠ f) : toFuzzyVal t f f = -1 := by
  unfold toFuzzyVal; rw [lin_at_x2 _ _ _ _ (sub_ne_zero.mpr (Ne.symm h))]; exact clampHiLo_of_mem le_rfl (by norm_num)

theorem toFuzzy_range (t f x : Rat) : -1 ≤ toFuzzyVal t f x ∧ toFuzzyVal t f x ≤ 1 :=
  clampHiLo_mem (by norm_num) _

/-- monotone when the true threshold is the larger one (order of cells preserved) … -/
theorem toFuzzy_mono (t f : Rat) (hft : f < t) {x y : Rat} (hxy : x ≤ y) : toFuzzyVal t f x ≤ toFuzzyVal t f y :=
  clampHiLo_mono _ _ (lin_mono (toFuzzy_slope_nonneg hft) hxy)

/-- … and antitone when it is the smaller one (order reversed) -/
theorem toFuzzy_anti (t f : Rat) (htf : t < f) {x y : Rat} (hxy : x ≤ y) : toFuzzyVal t f y ≤ toFuzzyVal t f x :=
  clampHiLo_mono _ _ (lin_anti (toFuzzy_slope_nonpos htf) hxy)

/-- with both thresholds given `CvtToFuzzy` does not look at the data -/
theorem exec_go_some_some (a : Arr) (t f : Num) (h2l : Bool) :
    exec.go a (some t) (some f) h2l =
      if t.val == f.val then eMp "InvalidThresholds" .cmd else fuzzyClamp (.ok (linMap t.val f.val 1 (-1) a)) := by
  unfold exec.go
  cases minL a.valid <;> cases maxL a.valid <;> rfl

/-- **CvtToFuzzy with explicit thresholds**: every present cell holds `toFuzzyVal t f`, missing cells stay missing - whether or not the field
has a present cell at all -/
theorem cvtToFuzzy_explicit (sqrt : Rat → Rat) (a r : Arr) (t f : Num) (htf : t.val ≠ f.val)
    (h : exec sqrt (.cvtToFuzzy (some t) (some f) none) [a] = .ok r) :
    r.vis = a.cells.map fun c => if c.mask then none else some (toFuzzyVal t.val f.val c.val) := by
  dsimp only [exec] at h
  simp only [exec_go_some_some, beq_iff_eq, htf, if_false] at h
  cases h
  rw [Arr.vis_insure, vis_linMap (sub_ne_zero.mpr (Ne.symm htf)), List.map_map, Option.map_comp_map]
  exact Arr.vis_map _ a

theorem cvtToFuzzy_spec (sqrt : Rat → Rat) (a r : Arr) (t f : Num) (hv : a.valid ≠ []) (htf : t.val ≠ f.val)
    (h : exec sqrt (.cvtToFuzzy (some t) (some f) none) [a] = .ok r) :
    r.vis = a.cells.map fun c => if c.mask then none else some (toFuzzyVal t.val f.val c.val) :=
  cvtToFuzzy_explicit sqrt a r t f htf h

/-- **CvtFromFuzzy is the inverse of CvtToFuzzy between the thresholds** (where no clamping happened). -/
theorem fromFuzzy_toFuzzy (t f x : Rat) (h : t ≠ f) : lin 1 (-1) t f (lin t f 1 (-1) x) = x := by
  unfold lin
  have : f - t ≠ 0 := sub_ne_zero.mpr (Ne.symm h)
  field_simp
  ring

theorem cvtFromFuzzy_spec (sqrt : Rat → Rat) (a r : Arr) (t f : Num) (htf : t.val ≠ f.val)
    (h : exec sqrt (.cvtFromFuzzy t f) [a] = .ok r) :
    r.vis = a.cells.map fun c => if c.mask then none else some (lin 1 (-1) t.val f.val c.val) := by
  dsimp only [exec] at h
  simp only [beq_iff_eq, htf, if_false, Except.ok.injEq] at h
  subst h
  rw [vis_linMap (by norm_num)]
  exact Arr.vis_map _ a

/-- equal thresholds are rejected with the specific error (`CvtFromFuzzy`; for `CvtToFuzzy`: `C08D.cvtToFuzzy_equal_after_defaults`) -/
theorem equal_thresholds_error (sqrt : Rat → Rat) (a : Arr) (t f : Num) (h : t.val = f.val) :
    exec sqrt (.cvtFromFuzzy t f) [a] = eMp "InvalidThresholds" .cmd := by
  dsimp only [exec]
  simp only [beq_iff_eq, h, if_true]

/-! ### threshold test -/

theorem cvtToBinary_spec (sqrt : Rat → Rat) (a r : Arr) (th : Num) (dir : String) (hd : dir = "LowToHigh" ∨ dir = "HighToLow")
    (h : exec sqrt (.cvtToBinary th dir) [a] = .ok r) :
    r.vis = a.cells.map fun c => if c.mask then none else
      some (if c.val < th.val then (if dir = "LowToHigh" then 0 else 1) else (if dir = "LowToHigh" then 1 else 0)) := by
  dsimp only [exec] at h
  have : ¬((dir != "LowToHigh" && dir != "HighToLow") = true) := by
    rcases hd with rfl | rfl <;> decide
  rw [if_neg this] at h
  simp only [fuzzyClamp, Except.map, Except.ok.injEq] at h
  subst h
  simp only [Arr.vis, Arr.insure, Arr.mapCells, List.map_map]
  apply List.map_congr_left
  intro c _
  cases hm : c.mask
  · simp only [Function.comp, Cell.vis, Cell.insure, hm, beq_iff_eq, Bool.false_eq_true, if_false]
    -- 0 and 1 are fuzzy values: the final clamp leaves them alone
    rw [clampHiLo_of_mem] <;> split_ifs <;> norm_num
  · simp [Cell.vis, Cell.insure, hm]

/-! ### category lookup -/

/-- a value equal to none of the raw values maps to the default … -/
theorem catLookup_miss (pairs : List (Num × Num)) (d x : Rat) (h : ∀ p ∈ pairs, p.1.val ≠ x) : catLookup pairs d x = d := by
  unfold catLookup
  induction pairs with
  | nil => rfl
  | cons q t ih =>
    rw [List.foldl_cons, if_neg (by simpa using (h q List.mem_cons_self).symm)]
    exact ih fun p hp => h p (List.mem_cons_of_mem _ hp)

/-- … and a value equal to the `i`-th raw value (raw values pairwise different) to the `i`-th normal value: the loop assigns it at the `i`-th pair,
and no later pair matches -/
theorem catLookup_hit (pairs : List (Num × Num)) (d : Rat) (p : Num × Num) (hp : p ∈ pairs)
    (hnd : (pairs.map (·.1.val)).Nodup) : catLookup pairs d p.1.val = p.2.val := by
  obtain ⟨pre, post, rfl⟩ := List.append_of_mem hp
  rw [List.map_append, List.map_cons] at hnd
  rw [catLookup, List.foldl_append, List.foldl_cons, if_pos (beq_self_eq_true _)]
  exact catLookup_miss post _ _ fun q hq e =>
    (List.nodup_cons.mp (List.nodup_append.mp hnd).2.1).1 (List.mem_map.mpr ⟨q, hq, e⟩)

/-! ### every CvtToFuzzy variant is its Normalize counterpart clamped to [−1, +1]

By `rfl`: the model writes each fuzzy variant as `fuzzyClamp` of the plain command's body, as each class of the code is a subclass of its Normalize
counterpart whose `execute` returns `insure_fuzzy(super().execute(..))`.  The z-score
pair agrees only with the thresholds written out, the defaults differ (NormalizeZScore 0 / 1, CvtToFuzzyZScore +1 / −1).  CvtToFuzzy is not in the
list: its body (`exec.go`: thresholds given or taken from the data, coinciding ones refused) is its own, not Normalize's. -/

theorem fuzzy_variant_eq_clamp_normalize (sqrt : Rat → Rat) (a : Arr) :
    (∀ raw v d, exec sqrt (.cvtToFuzzyCat raw v d) [a] = fuzzyClamp (exec sqrt (.normalizeCat raw v d) [a])) ∧
    (∀ raw v, exec sqrt (.cvtToFuzzyCurve raw v) [a] = fuzzyClamp (exec sqrt (.normalizeCurve raw v) [a])) ∧
    (∀ iz v, exec sqrt (.cvtToFuzzyMeanToMid iz v) [a] = fuzzyClamp (exec sqrt (.normalizeMeanToMid iz v) [a])) ∧
    (∀ z v, exec sqrt (.cvtToFuzzyCurveZScore z v) [a] = fuzzyClamp (exec sqrt (.normalizeCurveZScore z v) [a])) ∧
    (∀ t f : Num, exec sqrt (.cvtToFuzzyZScore (some t) (some f)) [a] =
        fuzzyClamp (exec sqrt (.normalizeZScore (some t) (some f) (some ⟨-1, true⟩) (some ⟨1, true⟩)) [a])) := by
  refine ⟨fun _ _ _ => rfl, fun _ _ => rfl, fun _ _ => rfl, fun _ _ => rfl, fun _ _ => rfl⟩

/-! ### piecewise-linear curve -/

/-- the order of Python's `sorted(zip(raw, normal))`: tuples compare lexicographically -/
def pairLe (p q : Rat × Rat) : Prop := toLex p ≤ toLex q

-- `List.orderedInsert` decides the order; `List.pairwise_insertionSort` wants it total and transitive
instance : DecidableRel pairLe := fun p q => inferInstanceAs (Decidable (toLex p ≤ toLex q))
instance : Std.Total pairLe := ⟨fun p q => le_total (toLex p) (toLex q)⟩
instance : IsTrans _ pairLe := ⟨fun _ _ _ => le_trans (α := Rat ×ₗ Rat)⟩

theorem insertPair_eq (p : Rat × Rat) (l : List (Rat × Rat)) : insertPair p l = l.orderedInsert pairLe p := by
  induction l with
  | nil => rfl
  | cons q t ih =>
    rw [insertPair, List.orderedInsert_cons, ih]
    refine if_congr ?_ rfl rfl
    simp only [pairLe, Prod.Lex.toLex_le_toLex, Bool.or_eq_true, Bool.and_eq_true, decide_eq_true_eq, beq_iff_eq]

/-- `sortPairs` is Mathlib's insertion sort for that order: a sorted permutation of its argument -/
theorem sortPairs_eq (l : List (Rat × Rat)) : sortPairs l = l.insertionSort pairLe :=
  congrArg (fun f => List.foldr f [] l) (funext₂ insertPair_eq)

theorem sortPairs_perm_self (l : List (Rat × Rat)) : (sortPairs l).Perm l := sortPairs_eq l ▸ List.perm_insertionSort _ l

theorem sortPairs_sorted (l : List (Rat × Rat)) : (sortPairs l).Pairwise pairLe := sortPairs_eq l ▸ List.pairwise_insertionSort _ l

/-- **the curve does not depend on the order in which its control points are listed**: a list has one sorted permutation -/
theorem sortPairs_perm {l l' : List (Rat × Rat)} (h : l.Perm l') : sortPairs l = sortPairs l' :=
  sort_eq_of_perm (le := pairLe) (fun _ _ h1 h2 => toLex.injective (le_antisymm h1 h2)) sortPairs_perm_self sortPairs_sorted h

theorem curveBody_eq_ok {ref : LineRef} {a r : Arr} {raw nv : List Rat} :
    curveBody ref a raw nv = .ok r ↔
      raw.length = nv.length ∧ hasDup raw = false ∧ raw ≠ [] ∧ curveArr a (sortPairs (List.zip raw nv)) = r := by
  simp only [curveBody, eMp, eRaw, ite_error_eq_ok, Except.ok.injEq, bne_iff_ne, ne_eq, not_not, Bool.not_eq_true, List.isEmpty_iff]

theorem curve_perm_invariant (ref : LineRef) (a : Arr) {raw nv raw' nv' : List Rat}
    (h : (List.zip raw nv).Perm (List.zip raw' nv')) (hl : raw.length = nv.length) (hl' : raw'.length = nv'.length)
    (hd : hasDup raw = false) (hd' : hasDup raw' = false) (hne : raw ≠ []) (hne' : raw' ≠ []) :
    curveBody ref a raw nv = curveBody ref a raw' nv' := by
  rw [curveBody_eq_ok.mpr ⟨hl, hd, hne, rfl⟩, curveBody_eq_ok.mpr ⟨hl', hd', hne', rfl⟩, sortPairs_perm h]

/-! ### the curve at, between and beyond its control points -/

/-- `x * m + b` with slope and intercept as the segment loop computes them is the line through the two points -/
theorem lin_eq_slope_intercept (x1 x2 y1 y2 x : Rat) :
    x * ((y2 - y1) / (x2 - x1)) + (y1 - (y2 - y1) / (x2 - x1) * x1) = lin x1 x2 y1 y2 x := by
  unfold lin; ring

theorem curveSegs_idle (x : Rat) : ∀ (ps : List (Rat × Rat)) (prev : Rat × Rat) (acc : Rat), x ≤ prev.1 → (∀ a ∈ ps, x ≤ a.1) →
    curveSegs x prev ps acc = acc
  | [], _, _, _, _ => rfl
  | p :: ps, prev, acc, h0, h => by
    rw [curveSegs, decide_eq_false (not_lt.mpr h0), Bool.false_and, if_neg Bool.false_ne_true]
    exact curveSegs_idle x ps p acc (h p List.mem_cons_self) fun a ha => h a (List.mem_cons_of_mem _ ha)

theorem curveAt_cons (p0 : Rat × Rat) (rest : List (Rat × Rat)) (x : Rat) :
    curveAt (p0 :: rest) x =
      if x > ((p0 :: rest).getLast (List.cons_ne_nil _ _)).1 then ((p0 :: rest).getLast (List.cons_ne_nil _ _)).2
      else curveSegs x p0 rest (if x ≤ p0.1 then p0.2 else 0) := by
  rw [curveAt, List.getLast!_of_getLast? (List.getLast?_eq_some_getLast (List.cons_ne_nil p0 rest))]

theorem le_fst_of_le_head {x : Rat} {p0 : Rat × Rat} {rest : List (Rat × Rat)} (hx : x ≤ p0.1)
    (hs : (p0 :: rest).Pairwise fun p q => p.1 < q.1) : ∀ a ∈ p0 :: rest, x ≤ a.1 :=
  List.forall_mem_cons.mpr ⟨hx, fun _ ha => hx.trans (List.rel_of_pairwise_cons hs ha).le⟩

/-- flat at and below the first control point -/
theorem curveAt_below (p0 : Rat × Rat) (rest : List (Rat × Rat)) (x : Rat) (hx : x ≤ p0.1)
    (hs : (p0 :: rest).Pairwise fun p q => p.1 < q.1) : curveAt (p0 :: rest) x = p0.2 := by
  have hall := le_fst_of_le_head hx hs
  rw [curveAt_cons, if_neg (not_lt.mpr (hall _ (List.getLast_mem _))), if_pos hx,
    curveSegs_idle x rest p0 _ hx fun a ha => hall a (List.mem_cons_of_mem _ ha)]

theorem curveAt_skip {a b : Rat × Rat} (l : List (Rat × Rat)) {x : Rat} (ha : a.1 < x) (hb : b.1 < x) :
    curveAt (a :: b :: l) x = curveAt (b :: l) x := by
  rw [curveAt_cons, curveAt_cons, List.getLast_cons (List.cons_ne_nil b l), curveSegs, decide_eq_false (not_le.mpr hb), Bool.and_false,
    if_neg Bool.false_ne_true, if_neg (not_le.mpr ha), if_neg (not_le.mpr hb)]

/-- **interior of the curve**: for control points sorted by strictly increasing raw value, a value in the segment `(p.raw, q.raw]` between two
consecutive points is mapped onto the straight line through them -/
theorem curveAt_interior (pre post : List (Rat × Rat)) (p q : Rat × Rat) (x : Rat)
    (hs : (pre ++ p :: q :: post).Pairwise (fun a b => a.1 < b.1)) (h1 : p.1 < x) (h2 : x ≤ q.1) :
    curveAt (pre ++ p :: q :: post) x = lin p.1 q.1 p.2 q.2 x := by
  induction pre with
  | nil =>
    -- the first segment assigns the line; the points from `q` on lie at or above `x`, so nothing assigns after it
    have hall := le_fst_of_le_head h2 hs.of_cons
    rw [List.nil_append, curveAt_cons, List.getLast_cons (List.cons_ne_nil q post), if_neg (not_lt.mpr (hall _ (List.getLast_mem _))),
      curveSegs, decide_eq_true (show x > p.1 from h1), decide_eq_true h2, Bool.and_self, if_pos rfl,
      curveSegs_idle x post q _ h2 fun a ha => hall a (List.mem_cons_of_mem _ ha)]
    exact lin_eq_slope_intercept ..
  | cons a pre ih =>
    -- `a` and its successor (the head of `pre`, or `p`) lie below `x`
    have hpre : ∀ b ∈ a :: pre, b.1 < x := fun b hb => ((List.pairwise_append.mp hs).2.2 b hb p List.mem_cons_self).trans h1
    have hskip : curveAt (a :: (pre ++ p :: q :: post)) x = curveAt (pre ++ p :: q :: post) x := by
      cases pre with
      | nil => exact curveAt_skip _ (hpre a List.mem_cons_self) h1
      | cons b pre => exact curveAt_skip _ (hpre a List.mem_cons_self) (hpre b (List.mem_cons_of_mem _ List.mem_cons_self))
    rw [List.cons_append, hskip]
    exact ih hs.of_cons

/-- flat above the last control point -/
theorem curveAt_above (pts : List (Rat × Rat)) (hne : pts ≠ []) (x : Rat) (hx : x > (pts.getLast hne).1) :
    curveAt pts x = (pts.getLast hne).2 := by
  obtain ⟨p0, rest, rfl⟩ := List.exists_cons_of_ne_nil hne
  rw [curveAt_cons, if_pos hx]

/-- the control points of `NormalizeCurve` after sorting: distinct raw values give strictly increasing raw values -/
theorem sortPairs_strict (raw nv : List Rat) (hl : raw.length = nv.length) (hd : hasDup raw = false) :
    (sortPairs (List.zip raw nv)).Pairwise (fun a b => a.1 < b.1) := by
  have hne : (sortPairs (List.zip raw nv)).Pairwise (fun a b => a.1 ≠ b.1) := by
    rw [← List.pairwise_map (R := (· ≠ ·)), ← List.nodup_iff_pairwise_ne, ((sortPairs_perm_self _).map _).nodup_iff, List.map_fst_zip hl.le]
    exact hasDup_eq_false.mp hd
  exact ((sortPairs_sorted _).and hne).imp fun h => lt_of_le_of_ne (Prod.Lex.toLex_le_toLex'.mp h.1).1 h.2

/-- **NormalizeCurve, cell by cell**: the result keeps shape and missing cells of the input, is floating, and each cell holds the curve through the
sorted control points: flat at or below the first, on the line between two consecutive points, flat above the last.  Stated of the body
`curveBody`, which `NormalizeCurve` runs as it is; `CvtToFuzzyCurve` is `fuzzyClamp` of it (`fuzzy_variant_eq_clamp_normalize`) -/
theorem normalizeCurve_spec (ref : LineRef) (a r : Arr) (raw nv : List Rat) (h : curveBody ref a raw nv = .ok r) :
    raw.length = nv.length ∧ hasDup raw = false ∧ raw ≠ [] ∧
    (sortPairs (List.zip raw nv)).Pairwise (fun p q => p.1 < q.1) ∧
    r.dtype = .float ∧ r.shape = a.shape ∧
    r.cells = a.cells.map fun c => ⟨curveAt (sortPairs (List.zip raw nv)) c.val, c.mask⟩ := by
  obtain ⟨hl, hd, hne, rfl⟩ := curveBody_eq_ok.mp h
  exact ⟨hl, hd, hne, sortPairs_strict raw nv hl hd, rfl, rfl, rfl⟩

/-- non-vacuity: the curve through (0, 0), (2, 1), (4, -1) at 1, 3, -5, 9 -/
example : curveAt (sortPairs (List.zip [4, 0, 2] [-1, 0, 1])) 1 = 1 / 2 ∧ curveAt (sortPairs (List.zip [4, 0, 2] [-1, 0, 1])) 3 = 0 ∧
    curveAt (sortPairs (List.zip [4, 0, 2] [-1, 0, 1])) (-5) = 0 ∧ curveAt (sortPairs (List.zip [4, 0, 2] [-1, 0, 1])) 9 = -1 := by
  decide +kernel

/-! ### mean-to-mid and curve-by-z-score: which control points the curve goes through -/

/-- **the five statistics of the mean-to-mid commands**: minimum and maximum of the present cells (zeros included), and - over the present cells,
without the zeros when `IgnoreZeros` - the mean, the mean of the values at or below it and the mean of the values above it (none when no value lies above) -/
theorem mtmStats_spec (valid : List Rat) (iz : Bool) (low high mean lowMean : Rat) (highMean : Option Rat)
    (h : mtmStats valid iz = .ok (low, high, mean, lowMean, highMean)) :
    minL valid = some low ∧ maxL valid = some high ∧
    meanL (if iz then valid.filter (· != 0) else valid) = some mean ∧
    meanL ((if iz then valid.filter (· != 0) else valid).filter (· ≤ mean)) = some lowMean ∧
    highMean = meanL ((if iz then valid.filter (· != 0) else valid).filter (· > mean)) := by
  unfold mtmStats at h
  split at h
  · rename_i lo hi hlo hhi
    simp only at h
    split at h
    · cases h
    · rename_i m hm
      split at h
      · cases h
      · rename_i lm hlm
        injection h with h
        simp only [Prod.mk.injEq] at h
        obtain ⟨rfl, rfl, rfl, rfl, rfl⟩ := h
        exact ⟨hlo, hhi, hm, hlm, rfl⟩
  · cases h

/-- **NormalizeMeanToMid / CvtToFuzzyMeanToMid, cell by cell**: whenever the command returns a result, it is the piecewise-linear curve (as specified by
`normalizeCurve_spec`: shape and missing cells kept, flat outside, on the line between consecutive points) through the control points `mtmPoints`
derives from the five statistics of the field's present cells.  Stated of the body `meanToMidBody`: the result of NormalizeMeanToMid, and the
result of CvtToFuzzyMeanToMid before its clamp (`cvtToFuzzy_meanToMid_curveZ_eq_clamp`) -/
theorem meanToMid_spec (a r : Arr) (iz : Bool) (vals : List Num) (h : meanToMidBody a iz vals = .ok r) :
    ∃ raw nv, mtmPoints a.valid iz vals = .ok (raw, nv) ∧ raw.length = nv.length ∧ hasDup raw = false ∧ raw ≠ [] ∧
      (sortPairs (List.zip raw nv)).Pairwise (fun p q => p.1 < q.1) ∧
      r.dtype = .float ∧ r.shape = a.shape ∧
      r.cells = a.cells.map fun c => ⟨curveAt (sortPairs (List.zip raw nv)) c.val, c.mask⟩ := by
  unfold meanToMidBody at h
  split at h
  · cases h
  · rename_i raw nv hp
    exact ⟨raw, nv, hp, normalizeCurve_spec _ a r raw nv h⟩

/-- **NormalizeCurveZScore / CvtToFuzzyCurveZScore, cell by cell**: the curve through the control points `mean + z·deviation` (mean and population variance of
the present cells, `meanL_eq` / `varL_eq`; `sqrt` is the model's parameter), with the given values.  Stated of the body `curveZBody`: the result of
NormalizeCurveZScore, and the result of CvtToFuzzyCurveZScore before its clamp (`cvtToFuzzy_meanToMid_curveZ_eq_clamp`) -/
theorem curveZScore_spec (sqrt : Rat → Rat) (a r : Arr) (z vals : List Num) (h : curveZBody sqrt a z vals = .ok r) :
    z.length = vals.length ∧ z ≠ [] ∧ ∃ mean var, meanL a.valid = some mean ∧ varL a.valid = some var ∧
      r.dtype = .float ∧ r.shape = a.shape ∧
      r.cells = a.cells.map fun c =>
        ⟨curveAt (sortPairs (List.zip (z.map fun v => mean + v.val * sqrt var) (vals.map (·.val)))) c.val, c.mask⟩ := by
  simp only [curveZBody, eMp, eRaw, ite_error_eq_ok] at h
  obtain ⟨hlen, h⟩ := h
  split at h
  · rename_i mean var hm hv
    obtain ⟨hz, h⟩ := ite_error_eq_ok.mp h
    injection h with h; subst h
    exact ⟨by simpa using hlen, by simpa using hz, mean, var, hm, hv, rfl, rfl, rfl⟩
  · cases h

/-- the fuzzy variants are the same curves limited to [-1, 1] -/
theorem cvtToFuzzy_meanToMid_curveZ_eq_clamp (sqrt : Rat → Rat) (a : Arr) (iz : Bool) (z vals : List Num) :
    exec sqrt (.cvtToFuzzyMeanToMid iz vals) [a] = (exec sqrt (.normalizeMeanToMid iz vals) [a]).map (Arr.insure (-1) 1) ∧
    exec sqrt (.cvtToFuzzyCurveZScore z vals) [a] = (exec sqrt (.normalizeCurveZScore z vals) [a]).map (Arr.insure (-1) 1) :=
  ⟨rfl, rfl⟩

/-- non-vacuity: the field 1, 2, 3, 6 (mean 3; lower part 1, 2, 3 with mean 2; upper part 6) -/
example : mtmStats [1, 2, 3, 6] false = .ok (1, 6, 3, 2, some 6) := by decide +kernel

/-! ### z-score normalisation -/

/-- the line through `(mean + sd·tt, y1)` and `(mean + sd·ft, y2)` is the line through `(tt, y1)` and `(ft, y2)` read in z units `(x − mean) / sd` -/
theorem lin_zscore (mean sd tt ft y1 y2 x : Rat) (hsd : sd ≠ 0) (htf : ft - tt ≠ 0) :
    lin (mean + sd * tt) (mean + sd * ft) y1 y2 x = lin tt ft y1 y2 ((x - mean) / sd) := by
  -- both differences carry the factor `sd`, which cancels
  have hx : x - (mean + sd * tt) = sd * ((x - mean) / sd - tt) := by rw [mul_sub, mul_div_cancel₀ _ hsd, sub_add_eq_sub_sub]
  rw [lin, lin, add_sub_add_left_eq_sub, ← mul_sub, hx, mul_assoc, mul_div_mul_left _ _ hsd]

/-! the statistics the z-score commands use, in closed form: the mean and the population variance of the non-missing cells -/

theorem meanL_eq (xs : List Rat) (h : xs ≠ []) : meanL xs = some (xs.sum / (xs.length : Rat)) := by
  rw [meanL, if_neg (by simpa using h), sumL_eq_sum]

theorem varL_eq (xs : List Rat) (h : xs ≠ []) :
    varL xs = some ((xs.map fun x => (x - xs.sum / (xs.length : Rat)) * (x - xs.sum / (xs.length : Rat))).sum / (xs.length : Rat)) := by
  rw [varL, meanL_eq xs h]
  exact (meanL_eq _ (by simpa using h)).trans (by rw [List.length_map])

/-- **NormalizeZScore, cell by cell**: with `m` the mean and `v` the population variance of the non-missing cells and `sd = sqrt v ≠ 0`, a present cell holding `x`
is mapped to the line through `(tt, end)` and `(ft, start)` evaluated at the z-score `(x − m) / sd`, limited to `[start, end]`; missing cells stay missing -/
theorem normalizeZScore_spec (sqrt : Rat → Rat) (a r : Arr) (tt ft s e : Rat) (hv : a.valid ≠ [])
    (m v : Rat) (hm : m = a.valid.sum / (a.valid.length : Rat))
    (hvar : v = (a.valid.map fun x => (x - m) * (x - m)).sum / (a.valid.length : Rat))
    (hsd : sqrt v ≠ 0) (htf : ft - tt ≠ 0)
    (h : zScoreBody sqrt a tt ft s e = .ok r) :
    r.shape = a.shape ∧
    r.vis = a.cells.map fun c => if c.mask then none else some (clampHiLo s e (lin tt ft e s ((c.val - m) / sqrt v))) := by
  have hM : meanL a.valid = some m := by rw [hm]; exact meanL_eq _ hv
  have hV : varL a.valid = some v := by rw [hvar, hm]; exact varL_eq _ hv
  unfold zScoreBody at h
  rw [hM, hV] at h
  simp only [Except.ok.injEq] at h
  subst h
  have hd : (m + sqrt v * ft) - (m + sqrt v * tt) ≠ 0 := by
    rw [add_sub_add_left_eq_sub, ← mul_sub]; exact mul_ne_zero hsd htf
  refine ⟨rfl, ?_⟩
  rw [Arr.vis_insure, vis_linMap hd, List.map_map, Option.map_comp_map]
  refine (Arr.vis_map_congr fun c _ _ => ?_).trans (Arr.vis_map (fun x => clampHiLo s e (lin tt ft e s ((x - m) / sqrt v))) a)
  exact congrArg (clampHiLo s e) (lin_zscore _ _ _ _ _ _ _ hsd htf)

/-- non-vacuity: the field [0, 2, 4, 6] (mean 3, variance 5) under a deviation function returning 2, thresholds -1 and 1 -/
example : zScoreBody (fun _ => 2) ⟨.float, [4], [⟨0, false⟩, ⟨2, false⟩, ⟨4, false⟩, ⟨6, false⟩]⟩ (-1) 1 0 1 =
    .ok ⟨.float, [4], [⟨1, false⟩, ⟨3 / 4, false⟩, ⟨1 / 4, false⟩, ⟨0, false⟩]⟩ := by
  decide +kernel

end MPilot.C08
