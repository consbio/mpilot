/-
C11 — the line an error carries.  Load-time errors (`Program.from_source` / `add_command`) and validation errors (the pre-pass of
`Program.run`) carry the line *of a command or argument of the model* - the offending one; never a line that belongs to nothing in the file.
Read off Lemmas/Load.
-/
import MPilot.Model.Eems2
import MPilot.Lemmas.Load

namespace MPilot.C11

/-- what a load error can be, and where its line comes from -/
inductive LoadErrAt (lib : String → Option CmdDecl) (n : Node) : PErr → Prop
  | unknown : lib n.command = none → LoadErrAt lib n (.mp "CommandDoesNotExist" n.line)
  | duplicate : LoadErrAt lib n (.mp "DuplicateResult" n.line)
  | missing : LoadErrAt lib n (.mp "MissingParameters" n.line)
  | undeclared (decl : CmdDecl) (a : Arg) : lib n.command = some decl → a ∈ dedupArgs n.args → decl.input? a.name = none →
      LoadErrAt lib n (.mp "NoSuchParameter" a.line)

/-- **every load error carries the line of the offending command, or of the offending (undeclared) argument of that command**:
`LoadErrAt` gives the reason for an unknown command and an undeclared argument; which command of the file it is (the first that cannot be added)
the statement leaves open -/
theorem load_error_line (lib : String → Option CmdDecl) : ∀ (nodes : List Node) (p : Program) (e : PErr),
    fromNodes lib p nodes = .error e → ∃ n ∈ nodes, LoadErrAt lib n e := by
  intro nodes p
  fun_induction fromNodes lib p nodes with
  | case1 => nofun
  | case2 p n rest hl => intro e h; cases h; exact ⟨n, List.mem_cons_self, .unknown hl⟩
  | case3 p n rest decl hl e' he =>
    intro e h; cases h
    refine ⟨n, List.mem_cons_self, ?_⟩
    rcases addCommand_error _ _ _ _ _ _ he with rfl | rfl | ⟨a, ha, hna, rfl⟩
    exacts [.duplicate, .missing, .undeclared decl a hl ha hna]
  | case4 p n rest decl hl p' hp ih => exact fun e h => List.exists_mem_cons_of_exists (ih e h)

/-- the same for a command file: the line is the line the parser gave to that command / argument (`toNode`, `toArg`), i.e. that of one
of its tokens (Props/C11Nodes: the command's name; the argument's name or, for a list value, its `[`), in an LF / CRLF text exactly the source line
that token stands on (`C11X.lex_line_exact`).  For an undeclared argument `LoadErrAt` says `a ∈ dedupArgs …`: of arguments written under one name
`dedupArgs` keeps the last, so `a` is one of the arguments written - by the definition of `dedupArgs`; no lemma states it -/
theorem load_error_line_parsed (lib : String → Option CmdDecl) (p : Program) (cs : List CNode) (e : PErr)
    (h : fromNodes lib p (cs.map toNode) = .error e) :
    ∃ c ∈ cs, LoadErrAt lib (toNode c) e := by
  obtain ⟨n, hn, hne⟩ := load_error_line lib _ p e h
  obtain ⟨c, hc, rfl⟩ := List.mem_map.mp hn
  exact ⟨c, hc, hne⟩

/-- **every validation error of the pre-pass carries the line of the argument whose value was refused** (an argument of a command of the program,
declared by that command, whose cleaning fails with exactly that error class) -/
theorem prepassCmd_error_line (ctx : Ctx) (c : PCmd) : ∀ (args : List Arg) (e : PErr), prepassCmd ctx c args = .error e →
    ∃ a ∈ args, ∃ i ce, c.decl.input? a.name = some i ∧ clean ctx i.spec a.value = .error ce ∧ e = cleanErrToPErr ce a.line :=
  fun args => (prepassCmd_outcome ctx c args).2

theorem prepass_error_line (ctx : Ctx) : ∀ (cmds : List PCmd) (e : PErr), prepass ctx cmds = .error e →
    ∃ c ∈ cmds, ∃ a ∈ c.args, ∃ i ce, c.decl.input? a.name = some i ∧ clean ctx i.spec a.value = .error ce ∧ e = cleanErrToPErr ce a.line :=
  fun cmds e h => ((prepass_outcome ctx cmds).2 e h).imp fun c hc => ⟨hc.1, (prepassCmd_outcome ctx c c.args).2 e hc.2⟩

/-- and a refused value is reported with its argument's line whatever the error class (`cleanErrToPErr` attaches `a.line` to every MPilot error) -/
theorem cleanErr_line (ce : CleanErr) (line : Option Nat) (h : ce ≠ "OutsideModel") : cleanErrToPErr ce line = .mp ce line := by
  unfold cleanErrToPErr
  simp [h]

end MPilot.C11
