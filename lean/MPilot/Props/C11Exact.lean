/-
C11 — the line a token carries is *exactly* the line it starts on, for every text.

`lexAll_lines` (Props/C11.lean) shows that lines never decrease along the token stream; `parse_text` (Props/C10.lean) gives the exact lines of
well-formed renderings.  Here, for ANY text - well-formed or not, whatever the arrangement of blank lines, comments, multi-line quoted
strings - in which every carriage return belongs to a CR LF pair (`NoLoneCR`: the files the command-line tool hands over, which reads in
universal-newline mode, and every text written with LF or CRLF line ends): one scanning step advances the counter by exactly the number of
line feeds in the prefix it consumes (`Lex.scanOne_step`, Lemmas/Scan, says what a step consumes and counts for every text; `exact_of_ate` reads
it for LF / CRLF texts), so every token of `lex src` carries `1 +` the number of line feeds before the position at which it was scanned.
(A lone CR is counted as a line break between tokens but not inside a comment - the model says what the code does - which is why the
statement is about LF / CRLF texts.)
-/
import MPilot.Lemmas.Scan

namespace MPilot.C11X

/-- the line feeds of a text: its line breaks, when every carriage return is part of a CR LF pair (`countNewlines_of_noLoneCR`) -/
def nl (cs : List Char) : Nat := cs.count '\n'

theorem nl_append (a b : List Char) : nl (a ++ b) = nl a + nl b := by simp [nl]

/-- every carriage return is followed by a line feed: the line ends of `cs` are LF or CR LF -/
def NoLoneCR (cs : List Char) : Prop := ∀ a b, cs = a ++ '\r' :: b → ∃ b', b = '\n' :: b'

theorem NoLoneCR.suffix {x y : List Char} (h : NoLoneCR (x ++ y)) : NoLoneCR y := by
  intro a b hy
  exact h (x ++ a) b (by rw [hy]; simp)

theorem NoLoneCR.after_cr {a b : List Char} (h : NoLoneCR (a ++ b)) (hl : a.getLast? = some '\r') : ∃ b', b = '\n' :: b' := by
  obtain ⟨a0, rfl⟩ := List.getLast?_eq_some_iff.mp hl
  exact h a0 b (by simp)

theorem NoLoneCR.prefix {l rest : List Char} (h : NoLoneCR (l ++ rest)) (hl : l.getLast? ≠ some '\r') : NoLoneCR l := by
  intro a b e
  obtain ⟨b', hb⟩ := h a (b ++ rest) (by rw [e]; simp)
  cases b with
  | nil => exact absurd (by rw [e]; simp) hl
  | cons d b'' => injection hb with hd _; exact ⟨b'', by rw [hd]⟩

theorem NoLoneCR.nil : NoLoneCR [] := by intro a b h; cases a <;> cases h

theorem NoLoneCR.cons {c : Char} {r : List Char} (hc : c ≠ '\r') (h : NoLoneCR r) : NoLoneCR (c :: r) := by
  intro a b e
  cases a with
  | nil => injection e with e1 _; exact absurd e1 hc
  | cons x a' => injection e with _ e2; exact h a' b e2

theorem NoLoneCR.crlf {r : List Char} (h : NoLoneCR r) : NoLoneCR ('\r' :: '\n' :: r) := by
  intro a b e
  cases a with
  | nil => injection e with _ e2; exact ⟨r, e2.symm⟩
  | cons x a' => injection e with _ e2; exact h.cons (c := '\n') (by decide) a' b e2

theorem countNewlines_of_noLoneCR (l : List Char) (h : NoLoneCR l) : countNewlines l = nl l := by
  fun_induction countNewlines l with
  | case1 => rfl
  | case2 r ih => rw [ih (h.suffix (x := ['\r', '\n']))]; simp [nl]; omega
  | case3 r hr => obtain ⟨b', rfl⟩ := h [] r rfl; exact absurd rfl (hr b')
  | case4 r ih => rw [ih (h.suffix (x := ['\n']))]; simp [nl]; omega
  | case5 c r _ _ hc ih => rw [ih (h.suffix (x := [c]))]; simpa [nl, List.count_cons] using hc

/-- **counting line breaks = counting line feeds** in a stretch of an LF / CRLF text that is not cut inside a CR LF pair -/
theorem countNewlines_eq_nl : ∀ (l rest : List Char), NoLoneCR (l ++ rest) → l.getLast? ≠ some '\r' → countNewlines l = nl l :=
  fun l _ h hl => countNewlines_of_noLoneCR l (h.prefix hl)

/-- `Lex.Eats k cs rest` (Lemmas/Scan; the proofs go through that one) with `k` forgotten and the line feeds counted by `nl`: `eats_of_lex` -/
def Eats (cs rest : List Char) : Prop := ∃ pre, cs = pre ++ rest ∧ nl pre = 0

theorem eats_of_lex {k : Nat} {cs rest : List Char} (h : Lex.Eats k cs rest) : Eats cs rest :=
  let ⟨pre, h1, _, h2⟩ := h; ⟨pre, h1, List.count_eq_zero.mpr h2⟩

theorem scanFloat_eats {cs : List Char} {v : Option Rat} {rest : List Char} (h : scanFloat cs = some (v, rest)) : Eats cs rest :=
  eats_of_lex (Lex.scanFloat_eats h)

/-- in an LF / CRLF text what a step counts (`Lex.Ate`) is the number of line feeds it consumed: a quoted string cannot end in a CR, since the
closing quote follows; nor can a maximal run of line ends, since no LF follows it -/
theorem exact_of_ate {cs rest : List Char} {n : Nat} (h : NoLoneCR cs) (ha : Lex.Ate cs rest n) : ∃ pre, cs = pre ++ rest ∧ n = nl pre := by
  cases ha with
  | flat he =>
    obtain ⟨pre, h1, h2⟩ := eats_of_lex he
    exact ⟨pre, h1, h2.symm⟩
  | @quoted q content rest hq =>
    have hs : NoLoneCR (content ++ q :: rest) := NoLoneCR.suffix (x := [q]) h
    refine ⟨q :: content ++ [q], by simp, ?_⟩
    rw [countNewlines_eq_nl content (q :: rest) hs (fun hl => by obtain ⟨_, hb⟩ := hs.after_cr hl; injection hb with hb _; exact hq hb)]
    simp [nl, hq]
  | @breaks run rest _ hr =>
    exact ⟨run, rfl, countNewlines_eq_nl run rest h (fun hl => by obtain ⟨b', hb⟩ := h.after_cr hl; exact hr _ _ hb rfl)⟩

/-- what a scanning step does to the line counter: the token carries the line at which the step started, and the counter advances by exactly
the line feeds of the characters consumed -/
def StepOK (cs : List Char) (line : Nat) : Scan → Prop
  | .tok t rest line' => t.line = line ∧ ∃ pre, cs = pre ++ rest ∧ line' = line + nl pre
  | .skip rest line' => ∃ pre, cs = pre ++ rest ∧ line' = line + nl pre
  | .stop t => t.line = line

theorem scanOne_exact (cs : List Char) (line : Nat) (h : NoLoneCR cs) : StepOK cs line (scanOne cs line) := by
  cases cs with
  | nil => exact ⟨[], rfl, rfl⟩
  | cons c r =>
    cases hsc : scanOne (c :: r) line with
    | tok t rest line' =>
      obtain ⟨h1, n, ha, rfl⟩ := Lex.step_tok hsc
      obtain ⟨pre, h2, rfl⟩ := exact_of_ate h ha
      exact ⟨h1, pre, h2, rfl⟩
    | skip rest line' =>
      obtain ⟨n, ha, rfl⟩ := Lex.step_skip hsc
      obtain ⟨pre, h2, rfl⟩ := exact_of_ate h ha
      exact ⟨pre, h2, rfl⟩
    | stop t => exact Lex.step_stop hsc

/-- where a token was scanned: the text splits into what lies before the token and what starts with it -/
def ScannedAt (whole : List Char) (t : Tok) : Prop :=
  ∃ p q, whole = p ++ q ∧ t.line = 1 + nl p ∧
    ((∃ rest l', scanOne q t.line = .tok t rest l') ∨ scanOne q t.line = .stop t)

theorem lexAll_exact (fuel : Nat) (cs : List Char) (line : Nat) (whole pre : List Char) (hw : whole = pre ++ cs) (hn : NoLoneCR whole)
    (hl : line = 1 + nl pre) : ∀ t ∈ lexAll fuel cs line, ScannedAt whole t := by
  fun_induction lexAll fuel cs line generalizing pre with
  | case1 => simp
  | case2 => simp
  | case3 fuel c r line hb ih =>
    have hc : c ≠ '\n' := by rintro rfl; simp at hb
    exact ih (pre ++ [c]) (by rw [hw]; simp) (by rw [hl, nl_append]; simp [nl, hc])
  | case4 fuel c r line _ t rest line' hs ih =>
    have hstep := scanOne_exact (c :: r) line (NoLoneCR.suffix (x := pre) (hw ▸ hn))
    rw [hs] at hstep
    obtain ⟨htl, consumed, hc1, hc2⟩ := hstep
    refine List.forall_mem_cons.mpr ⟨⟨pre, c :: r, hw, by rw [htl, hl], .inl ⟨rest, line', htl ▸ hs⟩⟩, ?_⟩
    exact ih (pre ++ consumed) (by rw [hw, hc1]; simp) (by rw [hc2, hl, nl_append]; omega)
  | case5 fuel c r line _ rest line' hs ih =>
    have hstep := scanOne_exact (c :: r) line (NoLoneCR.suffix (x := pre) (hw ▸ hn))
    rw [hs] at hstep
    obtain ⟨consumed, hc1, hc2⟩ := hstep
    exact ih (pre ++ consumed) (by rw [hw, hc1]; simp) (by rw [hc2, hl, nl_append]; omega)
  | case6 fuel c r line _ t hs =>
    have htl : t.line = line := by have := scanOne_exact (c :: r) line (NoLoneCR.suffix (x := pre) (hw ▸ hn)); rwa [hs] at this
    simpa using ⟨pre, c :: r, hw, by rw [htl, hl], .inr (htl ▸ hs)⟩

/-- **C11, exactness.** In a text whose line ends are LF or CR LF, every token delivered by the lexer - inside or outside lists, after any
number of blank lines, comments and multi-line quoted strings, in a well-formed or a malformed file - carries exactly its 1-based line:
one plus the number of line feeds before the position at which it was scanned. -/
theorem lex_line_exact (src : String) (h : NoLoneCR src.toList) : ∀ t ∈ lex src, ScannedAt src.toList t :=
  lexAll_exact _ _ 1 src.toList [] rfl h rfl

/-- the premise as a computation -/
def noLoneCRB : List Char → Bool
  | [] => true
  | c :: r => if c = '\r' then (match r with | d :: r' => d = '\n' && noLoneCRB r' | [] => false) else noLoneCRB r

theorem noLoneCR_of_B : ∀ (n : Nat) (cs : List Char), cs.length ≤ n → noLoneCRB cs = true → NoLoneCR cs := by
  rintro _ cs - h
  fun_induction noLoneCRB cs with
  | case1 => exact .nil
  | case2 d r ih =>
    obtain ⟨rfl, hr⟩ : d = '\n' ∧ noLoneCRB r = true := by simpa using h
    exact (ih hr).crlf
  | case3 => cases h
  | case4 c r hc ih => exact (ih h).cons hc

/-- non-vacuity: an LF / CRLF text satisfies the premise (a text with a lone CR does not) -/
example : NoLoneCR ['A', '=', 'B', '(', ')', '\r', '\n', '#', 'c', '\n', '"', 't', '\n', 'l', '"', '\n'] ∧ noLoneCRB ['A', '\r', 'C'] = false :=
  ⟨noLoneCR_of_B 16 _ (by decide) (by decide), by decide⟩

end MPilot.C11X
