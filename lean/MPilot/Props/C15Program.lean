/-
C15 (second part) — the text the serializer writes is read back as the program it was written from.

The serializer's text is written out as characters; each piece of it (a value, a `name = value` row, a command), followed by what the serializer
puts behind it, lexes to known tokens on known lines (the `…Seg` theorems, through the spellings of Props/C10); these tokens render the node the
piece was written from (`valRVal` .. `progRProg`).  `serialize_parse_roundtrip` puts C10's `program_renders` on top.
-/
import MPilot.Props.C10

namespace MPilot.C15P
open MPilot.Lex MPilot.C10

/-- `cs` is a segment: followed by any text that satisfies `ok`, it lexes to the tokens `mk line` (as a function of the line it starts on)
and leaves the line counter at `line + n` -/
def Seg (cs : List Char) (n : Nat) (mk : Nat → List Tok) (ok : List Char → Prop) : Prop :=
  ∀ rest line, ok rest → lexS (cs ++ rest) line = mk line ++ lexS rest (line + n)

theorem Seg.of_spells {sp : List Char} {k : TokKind} {v : TVal} {ok : List Char → Prop} (h : Spells sp k v ok) :
    Seg sp 0 (fun l => [⟨k, v, l⟩]) ok := fun rest line hok => by rw [h rest line hok]; rfl

theorem Seg.of_gap {g : List Char} {n : Nat} (h : Gap g n) : Seg g n (fun _ => []) (fun _ => True) :=
  fun rest line _ => by rw [lexS_gap h]; rfl

theorem Seg.nil : Seg [] 0 (fun _ => []) (fun _ => True) := fun rest line _ => by simp

/-- segments compose when the second one starts the way the first one needs -/
theorem Seg.append {a b : List Char} {n1 n2 : Nat} {mk1 mk2 : Nat → List Tok} {ok1 ok2 : List Char → Prop}
    (h1 : Seg a n1 mk1 ok1) (h2 : Seg b n2 mk2 ok2) (hok : ∀ rest, ok2 rest → ok1 (b ++ rest)) :
    Seg (a ++ b) (n1 + n2) (fun l => mk1 l ++ mk2 (l + n1)) ok2 := by
  intro rest line hr
  rw [List.append_assoc, h1 (b ++ rest) line (hok rest hr), h2 rest (line + n1) hr, List.append_assoc, Nat.add_assoc]

theorem Seg.weaken {a : List Char} {n : Nat} {mk : Nat → List Tok} {ok ok' : List Char → Prop} (h : Seg a n mk ok)
    (hw : ∀ r, ok' r → ok r) : Seg a n mk ok' := fun rest line hr => h rest line (hw rest hr)

/-- a whole text: a segment that needs nothing of what follows, followed by nothing -/
theorem Seg.lex {cs : List Char} {n : Nat} {mk : Nat → List Tok} {ok : List Char → Prop} (h : Seg cs n mk ok) (hnil : ok []) (line : Nat) :
    lexS cs line = mk line := by
  have := h [] line hnil
  simpa [lexS_nil] using this

/- The `…Seg` theorems below are `Seg` statements written out (for `moreSeg`, `cmdSeg` the line they end on is a recursion, not `line + n`) and
are proved token by token, not by `Seg.append`: their token functions (`valToks`, `moreToks`, `cmdToks` ..) are recursions of their own, not the
composites `Seg.append` builds. -/

/-! ### the serializer's text as characters -/

theorem toList_intercalate_cons (sep a : String) (ss : List String) :
    (sep.intercalate (a :: ss)).toList = a.toList ++ ss.flatMap fun s => sep.toList ++ s.toList := by
  induction ss generalizing a with
  | nil => simp
  | cons b t ih => simp [String.intercalate_cons_cons, ih]

/-- writes the characters of a concatenation of texts out, one after the other in front of what follows -/
macro "chars" : tactic =>
  `(tactic| simp only [String.toList_append, String.reduceToList, List.append_assoc, List.cons_append, List.nil_append])

/-! ### integers as the serializer prints them -/

theorem spells_nat (neg : Bool) (m : Nat) :
    Spells (signChars neg ++ Nat.toDigits 10 m) .int (.int (if neg then -(m : Int) else m)) (StopsAt (fun c => isDig c || c == '.')) := by
  simpa only [digitsVal_toDigits] using spells_int neg (Nat.toDigits 10 m) Nat.toDigits_ne_nil (isDig_toDigits m)

/-- **every integer, printed by `str()`, is read back as that integer** (followed by anything but a digit or a point) -/
theorem spells_toString_int (n : Int) : Spells (toString n).toList .int (.int n) (StopsAt (fun c => isDig c || c == '.')) := by
  cases n with
  | ofNat m =>
    have e : (toString (Int.ofNat m)).toList = signChars false ++ Nat.toDigits 10 m := Nat.toList_repr ..
    rw [e]; exact spells_nat false m
  | negSucc m =>
    have e : (toString (Int.negSucc m)).toList = signChars true ++ Nat.toDigits 10 (m + 1) := by
      show ("-" ++ Nat.repr (m + 1)).toList = _
      rw [String.toList_append, Nat.toList_repr]; rfl
    rw [e]; exact spells_nat true (m + 1)

/-! ### decimals as the serializer prints them (positional notation) -/

theorem natCast_num_toNat {v : Rat} (hd : v.den = 1) (h0 : 0 ≤ v) : (v.num.toNat : Rat) = v := by
  rw [← Rat.coe_int_num_of_den_eq_one hd]
  exact_mod_cast Int.toNat_of_nonneg (Rat.num_nonneg.mpr h0)

theorem findScale_spec (a : Rat) (ha : 0 ≤ a) : ∀ (fuel k m k' : Nat), findScale a k fuel = some (m, k') →
    a * (10 : Rat) ^ k' = (m : Rat) ∧ k' < k + fuel := by
  intro fuel
  induction fuel with
  | zero => intro k m k' h; cases h
  | succ f ih =>
    intro k m k' h
    rw [findScale] at h
    split_ifs at h with hden
    · obtain ⟨rfl, rfl⟩ := Prod.mk.inj (Option.some.inj h)
      exact ⟨(natCast_num_toNat (by simpa using hden) (mul_nonneg ha (pow_nonneg (by decide) k))).symm, by omega⟩
    · obtain ⟨h1, h2⟩ := ih (k + 1) m k' h
      exact ⟨h1, by omega⟩

theorem pointAt_digits (ds : List Char) (k : Nat) (hne : ds ≠ []) (hd : ∀ c ∈ ds, isDig c = true) (ip fp : List Char)
    (h : pointAt ds k = (ip, fp)) :
    ip ≠ [] ∧ (∀ c ∈ ip, isDig c = true) ∧ (∀ c ∈ fp, isDig c = true) ∧ fp.length = max k 1 ∧
    decimalValue ip fp = (digitsVal ds : Rat) / (10 : Rat) ^ k := by
  have h0 : ∀ c ∈ ['0'], isDig c = true := by decide
  unfold pointAt at h
  unfold decimalValue
  split_ifs at h with hk hlen <;> obtain ⟨rfl, rfl⟩ := Prod.mk.inj h
  · obtain rfl : k = 0 := by simpa using hk
    refine ⟨hne, hd, h0, rfl, ?_⟩
    rw [digitsVal_app]; simp [digitsVal]
  · -- the point falls inside `ds`: `k` digits behind it
    have hmax : max k 1 = k := Nat.max_eq_left (Nat.pos_of_ne_zero (by simpa using hk))
    have hfp : ds.length - (ds.length - k) = k := Nat.sub_sub_self hlen.le
    refine ⟨?_, fun c hc => hd c (List.mem_of_mem_take hc), fun c hc => hd c (List.mem_of_mem_drop hc), ?_, ?_⟩
    · rw [ne_eq, List.take_eq_nil_iff, not_or]; exact ⟨Nat.sub_ne_zero_of_lt hlen, hne⟩
    · rw [List.length_drop, hfp, hmax]
    · rw [List.take_append_drop, List.length_drop, hfp]
  · -- `ds` is filled up with zeros to `k` digits behind the point
    have hmax : max k 1 = k := Nat.max_eq_left (Nat.pos_of_ne_zero (by simpa using hk))
    have hfp : k - ds.length + ds.length = k := Nat.sub_add_cancel (Nat.le_of_not_lt hlen)
    refine ⟨List.cons_ne_nil _ _, h0, ?_, ?_, ?_⟩
    · exact List.forall_mem_append.mpr ⟨fun c hc => by rw [List.eq_of_mem_replicate hc]; rfl, hd⟩
    · rw [List.length_append, List.length_replicate, hfp, hmax]
    · rw [List.singleton_append, ← List.cons_append, ← List.replicate_succ, digitsVal_zeros, List.length_append, List.length_replicate, hfp]

/-- the digits of `m` with the point `k` places from the right: both parts are digit strings, the integer part is not empty, the fractional
part has `max k 1` digits, and together they denote `m / 10^k` -/
theorem pointAt_spec (m k : Nat) : ∀ ip fp, pointAt (Nat.toDigits 10 m) k = (ip, fp) →
    ip ≠ [] ∧ (∀ c ∈ ip, isDig c = true) ∧ (∀ c ∈ fp, isDig c = true) ∧ fp.length = max k 1 ∧
    decimalValue ip fp = (m : Rat) / (10 : Rat) ^ k := by
  intro ip fp h
  have := pointAt_digits _ k Nat.toDigits_ne_nil (isDig_toDigits m) ip fp h
  rwa [digitsVal_toDigits] at this

/-- **every decimal the serializer can print** (terminating, at most 400 places) is read back as exactly that number -/
theorem spells_positional (q : Rat) (txt : String) (h : positional q = some txt) :
    Spells txt.toList .float (.float q) (StopsAt (fun c => isDig c || c == 'e' || c == 'E')) := by
  unfold positional at h
  simp only at h
  split at h
  · cases h
  · rename_i m k hfs
    -- `findScale` ran on |q|, which is not negative in either branch of its `if`
    obtain ⟨hval, hk⟩ := findScale_spec _ (by split; exacts [(neg_pos.mpr ‹_›).le, not_lt.mp ‹_›]) 400 0 m k hfs
    rcases hp : pointAt (Nat.toDigits 10 m) k with ⟨ip, fp⟩
    rw [hp] at h
    obtain rfl := Option.some.inj h
    obtain ⟨hne, hi, hf, hlen, hdv⟩ := pointAt_spec m k ip fp hp
    have hdv' : decimalValue ip fp = if q < 0 then -q else q := by
      rw [hdv, ← hval, mul_div_cancel_right₀ _ (pow_ne_zero k (by decide))]
    have hsp := spells_float (decide (q < 0)) ip fp hne hi hf (by omega)
    rw [String.toList_ofList]
    -- `hsp` is the token of |q| under the sign `q < 0`: for `q < 0` that is `-|q| = q`, and not `-0.0` since `q ≠ 0`
    have h0 : q < 0 → q ≠ 0 := ne_of_lt
    by_cases hq : q < 0 <;> simpa [signChars, floatTokVal, hdv', hq, h0] using hsp

/-! ### values -/

/-- identifier-shaped text: a letter or underscore, then letters, digits, underscores -/
def IsIdent (s : String) : Prop := ∃ c w, s.toList = c :: w ∧ isIdStart c = true ∧ ∀ x ∈ w, isIdCont x = true

theorem spells_identStr (s : String) (h : IsIdent s) : Spells s.toList .id (.str s) (StopsAt isIdCont) := by
  obtain ⟨c, w, hs, hc, hw⟩ := h
  have := spells_ident c w hc hw
  rw [← hs] at this
  simpa using this

/-- what follows a value in serialised text: a comma, a closing bracket or the end of the line -/
def Delim (rest : List Char) : Prop := ∃ c r, rest = c :: r ∧ (c = ',' ∨ c = ']' ∨ c = '\n')

theorem Delim.stops {p : Char → Bool} {rest : List Char} (h : Delim rest) (hp : p ',' = false ∧ p ']' = false ∧ p '\n' = false := by decide) :
    StopsAt p rest := by
  obtain ⟨c, r, rfl, hc⟩ := h
  apply stopsAt_cons
  rcases hc with rfl | rfl | rfl
  exacts [hp.1, hp.2.1, hp.2.2]

mutual
  /-- the values the theorem covers: quoted text, integers, booleans, `None`, words that are identifiers (references to results, unquoted
  identifiers), decimals (any rational the serializer can print: terminating, at most 400 places), and lists of such values to any depth; metadata tuples are covered by `ArgCovered` below. -/
  def Covered (isRes : Bool) : Raw → Prop
    | .str s => isRes = true → IsIdent s
    | .int _ => True
    | .bool _ => True
    | .none => True
    | .cmd n => IsIdent n
    | .list xs => CoveredL isRes xs
    | .float _ => True
    | .dict _ => False
    | .pytype _ => False
  def CoveredL (isRes : Bool) : List Raw → Prop
    | [] => True
    | x :: xs => Covered isRes x ∧ CoveredL isRes xs
end

mutual
  /-- the tokens of a serialised value, all on line `l` -/
  def valToks (isRes : Bool) : Raw → Nat → List Tok
    | .str s, l => [⟨if isRes then .id else .string, .str s, l⟩]
    | .int n, l => [⟨.int, .int n, l⟩]
    | .bool b, l => [⟨.id, .str (if b then "True" else "False"), l⟩]
    | .none, l => [⟨.id, .str "None", l⟩]
    | .cmd n, l => [⟨.id, .str n, l⟩]
    | .list xs, l => ⟨.lbrack, .none, l⟩ :: (match xs with | [] => [] | x :: t => valToks isRes x l ++ restToks isRes t l) ++ [⟨.rbrack, .none, l⟩]
    | .float q, l => [⟨.float, .float q, l⟩]
    -- not covered (`Covered` is `False`): any value will do
    | .dict _, _ => []
    | .pytype _, _ => []
  def restToks (isRes : Bool) : List Raw → Nat → List Tok
    | [], _ => []
    | y :: ys, l => ⟨.comma, .none, l⟩ :: (valToks isRes y l ++ restToks isRes ys l)
end

mutual
  /-- the parse-tree node a serialised value is read back as (strings and words as text, integers as integers, lists as lists) -/
  def valNode (isRes : Bool) : Raw → Nat → ENode
    | .str s, l => .mk (.str s) l
    | .int n, l => .mk (.int n) l
    | .bool b, l => .mk (.str (if b then "True" else "False")) l
    | .none, l => .mk (.str "None") l
    | .cmd n, l => .mk (.str n) l
    | .list xs, l => .mk (.list (nodesOf isRes xs l)) l
    | .float q, l => .mk (.float q) l
    -- not covered: any value will do
    | .dict _, l => .mk (.str "") l
    | .pytype _, l => .mk (.str "") l
  def nodesOf (isRes : Bool) : List Raw → Nat → List ENode
    | [], _ => []
    | x :: xs, l => valNode isRes x l :: nodesOf isRes xs l
end

theorem ident_True : IsIdent "True" := ⟨'T', ['r', 'u', 'e'], rfl, by decide, by decide⟩
theorem ident_False : IsIdent "False" := ⟨'F', ['a', 'l', 's', 'e'], rfl, by decide, by decide⟩
theorem ident_None : IsIdent "None" := ⟨'N', ['o', 'n', 'e'], rfl, by decide, by decide⟩

/-! ### tokens of a value render its node -/

mutual
  theorem valRVal (isRes : Bool) : ∀ (r : Raw), Covered isRes r → ∀ l, RVal (valToks isRes r l) (valNode isRes r l)
    | .str s, _, l => by cases isRes; exacts [RVal.qstr s l, RVal.bare s l]
    | .int n, _, l => RVal.int n l
    | .bool b, _, l => RVal.bare _ l
    | .none, _, l => RVal.bare _ l
    | .cmd n, _, l => RVal.bare n l
    | .list [], _, l => RVal.nil l l
    | .list (x :: t), h, l => by
        have hx := valRVal isRes x h.1 l
        have := restRElems isRes t h.2 l x hx
        exact RVal.list l l _ _ this
    | .float q, _, l => RVal.float q l
    | .dict _, h, _ => False.elim h
    | .pytype _, h, _ => False.elim h
  theorem restRElems (isRes : Bool) : ∀ (t : List Raw), CoveredL isRes t → ∀ l (x : Raw), RVal (valToks isRes x l) (valNode isRes x l) →
      RElems (valToks isRes x l ++ restToks isRes t l) (valNode isRes x l :: nodesOf isRes t l)
    | [], _, l, x, hx => by
        simp only [restToks, nodesOf, List.append_nil]
        exact RElems.one _ _ hx
    | y :: ys, h, l, x, hx => by
        have hy := valRVal isRes y h.1 l
        have := restRElems isRes ys h.2 l y hy
        simp only [restToks, nodesOf]
        exact RElems.cons _ _ l _ _ hx this
end

/-! ### the text of a value lexes to its tokens -/

def restChars (ss : List String) : List Char := ss.flatMap fun s => ',' :: ' ' :: s.toList

theorem intercalate_chars (a : String) (ss : List String) : (", ".intercalate (a :: ss)).toList = a.toList ++ restChars ss :=
  toList_intercalate_cons ", " a ss

theorem Delim.restChars_append {rest : List Char} (h : Delim rest) (ss : List String) : Delim (restChars ss ++ rest) := by
  cases ss with
  | nil => simpa [restChars] using h
  | cons b t => exact ⟨',', ' ' :: (b.toList ++ (restChars t ++ rest)), by simp [restChars], Or.inl rfl⟩

theorem delim_rbrack (r : List Char) : Delim (']' :: r) := ⟨']', r, rfl, Or.inr (Or.inl rfl)⟩

theorem serializeValues_cons {isRes : Bool} {x : Raw} {xs : List Raw} {ss : List String} (h : serializeValues isRes (x :: xs) = some ss) :
    ∃ a b, serializeValue isRes x = some a ∧ serializeValues isRes xs = some b ∧ ss = a :: b := by
  rw [serializeValues] at h
  split at h <;> try cases h
  split at h <;> cases h
  exact ⟨_, _, ‹_›, ‹_›, rfl⟩

mutual
  /-- **the serialised text of a value**, followed by a delimiter, lexes to the value's tokens, all on the line the value starts on -/
  theorem valSeg (isRes : Bool) : ∀ (r : Raw), Covered isRes r → ∀ (txt : String), serializeValue isRes r = some txt →
      ∀ rest line, Delim rest → lexS (txt.toList ++ rest) line = valToks isRes r line ++ lexS rest line
    | .str s, h, txt, ht, rest, line, hd => by
        cases ht
        cases isRes
        · exact spells_quoted s rest line trivial
        · exact spells_identStr s (h rfl) rest line hd.stops
    | .int n, _, txt, ht, rest, line, hd => by
        cases ht
        exact spells_toString_int n rest line hd.stops
    | .bool b, _, txt, ht, rest, line, hd => by
        cases ht
        cases b
        · exact spells_identStr "False" ident_False rest line hd.stops
        · exact spells_identStr "True" ident_True rest line hd.stops
    | .none, _, txt, ht, rest, line, hd => by
        cases ht
        exact spells_identStr "None" ident_None rest line hd.stops
    | .cmd n, h, txt, ht, rest, line, hd => by
        cases ht
        exact spells_identStr n h rest line hd.stops
    | .list [], _, txt, ht, rest, line, _ => by
        cases ht
        exact (lexS_punct '[' .lbrack _ line (by decide)).trans (congrArg _ (lexS_punct ']' .rbrack _ line (by decide)))
    | .list (x :: t), h, txt, ht, rest, line, _ => by
        rw [serializeValue] at ht
        obtain ⟨ss, hs, rfl⟩ := Option.map_eq_some_iff.mp ht
        obtain ⟨a, b, ha, hb, rfl⟩ := serializeValues_cons hs
        chars
        rw [intercalate_chars, List.append_assoc, lexS_punct '[' .lbrack _ line (by decide),
          valSeg isRes x h.1 a ha _ line ((delim_rbrack rest).restChars_append b), restSeg isRes t h.2 b hb _ line (delim_rbrack rest),
          lexS_punct ']' .rbrack _ line (by decide)]
        simp only [valToks, List.cons_append, List.append_assoc, List.nil_append]
    | .float q, _, txt, ht, rest, line, hd => by
        rw [serializeValue, scalarText] at ht
        exact spells_positional q txt ht rest line hd.stops
    | .dict _, h, _, _, _, _, _ => False.elim h
    | .pytype _, h, _, _, _, _, _ => False.elim h
  theorem restSeg (isRes : Bool) : ∀ (t : List Raw), CoveredL isRes t → ∀ (ss : List String), serializeValues isRes t = some ss →
      ∀ rest line, Delim rest → lexS (restChars ss ++ rest) line = restToks isRes t line ++ lexS rest line
    | [], _, ss, hs, rest, line, _ => by
        cases hs
        rfl
    | y :: ys, h, ss, hs, rest, line, hd => by
        obtain ⟨a, b, ha, hb, rfl⟩ := serializeValues_cons hs
        rw [restChars, List.flatMap_cons, ← restChars]
        chars
        rw [lexS_punct ',' .comma _ line (by decide), lexS_sp, valSeg isRes y h.1 a ha _ line (hd.restChars_append b),
          restSeg isRes ys h.2 b hb rest line hd]
        simp only [restToks, List.cons_append, List.append_assoc]
end

theorem mapM_cons_some {α β : Type} {f : α → Option β} {a : α} {as : List α} {rs : List β} (h : (a :: as).mapM f = some rs) :
    ∃ b bs, f a = some b ∧ as.mapM f = some bs ∧ rs = b :: bs := by
  simp only [List.mapM_cons, Option.bind_eq_bind, Option.bind_eq_some_iff, Option.pure_def, Option.some.injEq] at h
  obtain ⟨b, hb, bs, hbs, rfl⟩ := h
  exact ⟨b, bs, hb, hbs, rfl⟩

/-! ### metadata tuples (one `"key": "value"` pair per line) -/

/-- the texts of a metadata tuple: every value written through `str()` -/
def metaPairs : List (String × Raw) → Option (List (String × String))
  | [] => some []
  | (k, v) :: kv =>
      match scalarText v with
      | none => none
      | some t => match metaPairs kv with
        | none => none
        | some ps => some ((k, t) :: ps)

def pairRow (p : String × String) : String := "        " ++ quoteStr p.1 ++ ": " ++ quoteStr p.2

theorem meta_rows {kv : List (String × Raw)} {rows : List String}
    (h : (kv.mapM fun (k, v) => (scalarText v).map fun t => "        " ++ quoteStr k ++ ": " ++ quoteStr t) = some rows) :
    ∃ ps, metaPairs kv = some ps ∧ rows = ps.map pairRow := by
  induction kv generalizing rows with
  | nil => simp at h; subst h; exact ⟨[], rfl, rfl⟩
  | cons p kv ih =>
    obtain ⟨k, v⟩ := p
    obtain ⟨r, rs, hr, hrs, rfl⟩ := mapM_cons_some h
    obtain ⟨t, ht, rfl⟩ := Option.map_eq_some_iff.mp hr
    obtain ⟨ps, hps, rfl⟩ := ih hrs
    exact ⟨(k, t) :: ps, by simp [metaPairs, ht, hps], rfl⟩

def pairToks (p : String × String) (l : Nat) : List Tok := [⟨.string, .str p.1, l⟩, ⟨.colon, .none, l⟩, ⟨.string, .str p.2, l⟩]

def pairsToks : List (String × String) → Nat → List Tok
  | [], _ => []
  | [p], l => pairToks p l
  | p :: q :: ps, l => pairToks p l ++ ⟨.comma, .none, l⟩ :: pairsToks (q :: ps) (l + 1)

/-- the map the parser builds from the pairs (from the last pair backwards) -/
def dictOf : List (String × String) → Nat → List (String × ENode)
  | [], _ => []
  | [p], l => [(p.1, .mk (.str p.2) l)]
  | p :: q :: ps, l => dictSet (dictOf (q :: ps) (l + 1)) p.1 (.mk (.str p.2) l)

theorem pairRPair (p : String × String) (l : Nat) : RPair (pairToks p l) (p.1, .mk (.str p.2) l) := RPair.str true p.1 p.2 l l l

theorem pairsRPairs : ∀ (ps : List (String × String)), ps ≠ [] → ∀ l, RPairs (pairsToks ps l) (dictOf ps l)
  | [], h, _ => absurd rfl h
  | [p], _, l => RPairs.one _ _ (pairRPair p l)
  | p :: q :: ps, _, l => RPairs.cons _ _ _ l _ _ (pairRPair p l) (pairsRPairs (q :: ps) (by simp) (l + 1))

theorem pairRowSeg (p : String × String) (rest : List Char) (l : Nat) :
    lexS ((pairRow p).toList ++ rest) l = pairToks p l ++ lexS rest l := by
  unfold pairRow
  chars
  simp only [lexS_sp]
  rw [spells_quoted p.1 _ l trivial, lexS_punct ':' .colon _ l (by decide), lexS_sp, spells_quoted p.2 rest l trivial]
  rfl

def morePairChars (rows : List String) : List Char := rows.flatMap fun r => ',' :: '\n' :: r.toList

theorem pairs_chars (r : String) (rs : List String) : (",\n".intercalate (r :: rs)).toList = r.toList ++ morePairChars rs :=
  toList_intercalate_cons ",\n" r rs

theorem pairsSeg : ∀ (p : String × String) (ps : List (String × String)) (rest : List Char) (l : Nat),
    lexS ((pairRow p).toList ++ (morePairChars (ps.map pairRow) ++ rest)) l = pairsToks (p :: ps) l ++ lexS rest (l + ps.length)
  | p, [], rest, l => by simp [morePairChars, pairsToks, pairRowSeg]
  | p, q :: ps, rest, l => by
      rw [pairRowSeg, List.map_cons, morePairChars, List.flatMap_cons, ← morePairChars]
      chars
      rw [lexS_punct ',' .comma _ l (by decide), lexS_lf, pairsSeg q ps rest (l + 1), List.length_cons, Nat.add_right_comm l 1,
        Nat.add_assoc l]
      simp only [pairsToks, List.append_assoc, List.cons_append]

/-! ### arguments (one per line; a metadata tuple spans several lines) -/

/-- is the parameter an argument is given for a result parameter (lists unwrapped)? - decides whether text is written bare or quoted -/
def argIsRes (c : PCmd) (a : Arg) : Bool := match c.decl.input? a.name with | some i => specIsResult i.spec | none => false

/-- an argument the theorem covers: identifier name; a covered value, or a non-empty metadata tuple whose values have a text form -/
def ArgCovered (c : PCmd) (a : Arg) : Prop :=
  IsIdent a.name ∧ (match a.value with
    | .dict kv => kv ≠ [] ∧ (metaPairs kv).isSome
    | v => Covered (argIsRes c a) v)

/-- line breaks inside the text of an argument; a metadata tuple has one behind `[` and one behind each pair (`    ]` stands on a line of its own) -/
def argNl (a : Arg) : Nat := match a.value with | .dict kv => kv.length + 1 | _ => 0

def argValToks (c : PCmd) (a : Arg) (l : Nat) : List Tok :=
  match a.value with
  | .dict kv => ⟨.lbrack, .none, l⟩ :: pairsToks ((metaPairs kv).getD []) (l + 1) ++ [⟨.rbrack, .none, l + kv.length + 1⟩]
  | v => valToks (argIsRes c a) v l

def argValNode (c : PCmd) (a : Arg) (l : Nat) : ENode :=
  match a.value with
  | .dict kv => .mk (.dict (dictOf ((metaPairs kv).getD []) (l + 1))) l
  | v => valNode (argIsRes c a) v l

def rowToks (c : PCmd) (a : Arg) (l : Nat) : List Tok := ⟨.id, .str a.name, l⟩ :: ⟨.equal, .none, l⟩ :: argValToks c a l

def argNode (c : PCmd) (a : Arg) (l : Nat) : ANode := ⟨a.name, argValNode c a l, l⟩

theorem metaPairs_length {kv : List (String × Raw)} {ps : List (String × String)} (h : metaPairs kv = some ps) : ps.length = kv.length := by
  induction kv generalizing ps with
  | nil => cases h; rfl
  | cons p kv ih =>
    rw [metaPairs] at h
    split at h <;> try cases h
    split at h <;> cases h
    exact congrArg (· + 1) (ih ‹_›)

theorem ArgCovered.cases {c : PCmd} {a : Arg} (h : ArgCovered c a) :
    (∃ kv p ps, a.value = .dict kv ∧ metaPairs kv = some (p :: ps) ∧ ps.length + 1 = kv.length) ∨
    ((∀ kv, a.value ≠ .dict kv) ∧ Covered (argIsRes c a) a.value) := by
  obtain ⟨_, hv⟩ := h
  cases hav : a.value
  case dict kv =>
    rw [hav] at hv
    obtain ⟨hne, hs⟩ := hv
    obtain ⟨ps, hps⟩ := Option.isSome_iff_exists.mp hs
    have hl := metaPairs_length hps
    cases ps with
    | nil => exact absurd (List.length_eq_zero_iff.mp hl.symm) hne
    | cons p ps => exact .inl ⟨kv, p, ps, rfl, hps, hl⟩
  all_goals rw [hav] at hv; exact .inr ⟨fun _ => nofun, hv⟩

theorem argValRVal (c : PCmd) (a : Arg) (h : ArgCovered c a) (l : Nat) : RVal (argValToks c a l) (argValNode c a l) := by
  unfold argValToks argValNode
  rcases h.cases with ⟨kv, p, ps, hkv, hps, _⟩ | ⟨hnd, hcov⟩
  · simp only [hkv, hps, Option.getD_some]
    exact RVal.dict l _ _ _ (pairsRPairs (p :: ps) (List.cons_ne_nil _ _) (l + 1))
  · split
    · exact absurd ‹_› (hnd _)
    · exact valRVal _ _ hcov l

theorem rowRArg (c : PCmd) (a : Arg) (h : ArgCovered c a) (l : Nat) : RArg (rowToks c a l) (argNode c a l) :=
  RArg.mk a.name l l _ _ (argValRVal c a h l)

/-- what follows an argument in serialised text: a comma or the end of the line -/
def RowEnd (rest : List Char) : Prop := ∃ c r, rest = c :: r ∧ (c = ',' ∨ c = '\n')

theorem RowEnd.delim {rest : List Char} (h : RowEnd rest) : Delim rest :=
  let ⟨c, r, e, hc⟩ := h; ⟨c, r, e, hc.imp_right .inr⟩

theorem argValSeg (c : PCmd) (a : Arg) (h : ArgCovered c a) (t : String) (ht : serializeArgument (argIsRes c a) a = some t)
    (rest : List Char) (l : Nat) (hd : RowEnd rest) :
    lexS (t.toList ++ rest) l = argValToks c a l ++ lexS rest (l + argNl a) := by
  unfold serializeArgument at ht
  unfold argValToks argNl
  rcases h.cases with ⟨kv, p, ps, hkv, hps, hl⟩ | ⟨hnd, hcov⟩
  · simp only [hkv] at ht ⊢
    obtain ⟨rows, hm, rfl⟩ := Option.map_eq_some_iff.mp ht
    obtain ⟨qs, hqs, rfl⟩ := meta_rows hm
    obtain rfl : p :: ps = qs := Option.some.inj (hps.symm.trans hqs)
    simp only [hps, Option.getD_some, List.map_cons]
    chars
    rw [pairs_chars, List.append_assoc, lexS_punct '[' .lbrack _ l (by decide), lexS_lf, pairsSeg p ps _ (l + 1), lexS_lf]
    simp only [lexS_sp]
    rw [lexS_punct ']' .rbrack _ _ (by decide), ← hl]
    simp only [Nat.add_assoc, Nat.add_comm 1]
  · split at ht
    · exact absurd ‹_› (hnd _)
    · rw [valSeg _ a.value hcov t ht rest l hd.delim]
      split
      · exact absurd ‹_› (hnd _)
      · rfl

/-- one `name = value` row, followed by the end of the row -/
theorem rowSeg (c : PCmd) (a : Arg) (h : ArgCovered c a) (t : String) (ht : serializeArgument (argIsRes c a) a = some t)
    (rest : List Char) (l : Nat) (hd : RowEnd rest) :
    lexS ((a.name ++ " = " ++ t).toList ++ rest) l = rowToks c a l ++ lexS rest (l + argNl a) := by
  chars
  rw [spells_identStr a.name h.1 _ l (stopsAt_cons (by decide)), lexS_sp, lexS_punct '=' .equal _ l (by decide), lexS_sp,
    argValSeg c a h t ht rest l hd]
  rfl

def moreChars (rows : List String) : List Char := rows.flatMap fun r => ',' :: '\n' :: ' ' :: ' ' :: ' ' :: ' ' :: r.toList

/-- `l` = the line on which the previous row ended -/
def moreToks (c : PCmd) : List Arg → Nat → List Tok
  | [], _ => []
  | b :: bs, l => ⟨.comma, .none, l⟩ :: (rowToks c b (l + 1) ++ moreToks c bs (l + 1 + argNl b))

def moreNodes (c : PCmd) : List Arg → Nat → List ANode
  | [], _ => []
  | b :: bs, l => argNode c b (l + 1) :: moreNodes c bs (l + 1 + argNl b)

/-- the line on which the last of the rows ends -/
def moreEnd : List Arg → Nat → Nat
  | [], l => l
  | b :: bs, l => moreEnd bs (l + 1 + argNl b)

def rowTexts (c : PCmd) (as : List Arg) : Option (List String) :=
  as.mapM fun a => (serializeArgument (argIsRes c a) a).map fun t => a.name ++ " = " ++ t

theorem rowTexts_cons {c : PCmd} {a : Arg} {as : List Arg} {rows : List String} (h : rowTexts c (a :: as) = some rows) :
    ∃ t rs, serializeArgument (argIsRes c a) a = some t ∧ rowTexts c as = some rs ∧ rows = (a.name ++ " = " ++ t) :: rs := by
  obtain ⟨r, rs, hr, hrs, rfl⟩ := mapM_cons_some h
  obtain ⟨t, ht, rfl⟩ := Option.map_eq_some_iff.mp hr
  exact ⟨t, rs, ht, hrs, rfl⟩

theorem rowEnd_more (rs : List String) (rest : List Char) (hd : RowEnd rest) : RowEnd (moreChars rs ++ rest) := by
  cases rs with
  | nil => simpa [moreChars] using hd
  | cons r rs' => exact ⟨',', '\n' :: ' ' :: ' ' :: ' ' :: ' ' :: (r.toList ++ (moreChars rs' ++ rest)), by simp [moreChars], Or.inl rfl⟩

theorem moreSeg (c : PCmd) : ∀ (as : List Arg), (∀ a ∈ as, ArgCovered c a) → ∀ (rows : List String), rowTexts c as = some rows →
    ∀ rest l, RowEnd rest → lexS (moreChars rows ++ rest) l = moreToks c as l ++ lexS rest (moreEnd as l) := by
  intro as
  induction as with
  | nil =>
    intro _ rows hr rest l _
    cases hr
    rfl
  | cons b bs ih =>
    intro h rows hr rest l hd
    obtain ⟨hb, hbs⟩ := List.forall_mem_cons.mp h
    obtain ⟨t, rs, ht, hrs, rfl⟩ := rowTexts_cons hr
    rw [moreChars, List.flatMap_cons, ← moreChars, List.append_assoc]
    simp only [List.cons_append]
    rw [lexS_punct ',' .comma _ l (by decide), lexS_lf]
    simp only [lexS_sp]
    rw [rowSeg c b hb t ht _ (l + 1) (rowEnd_more rs rest hd), ih hbs rs hrs rest (l + 1 + argNl b) hd]
    simp only [moreToks, moreEnd, List.cons_append, List.append_assoc]

theorem moreRArgs (c : PCmd) : ∀ (as : List Arg), (∀ a ∈ as, ArgCovered c a) → ∀ (l : Nat) (ts : List Tok) (n : ANode),
    RArg ts n → RArgs (ts ++ moreToks c as l) (n :: moreNodes c as l)
  | [], _, l, ts, n, hn => by simpa [moreToks, moreNodes] using RArgs.one ts n hn
  | b :: bs, h, l, ts, n, hn => by
      obtain ⟨hb, hbs⟩ := List.forall_mem_cons.mp h
      simp only [moreToks, moreNodes]
      exact RArgs.cons ts n l _ _ hn (moreRArgs c bs hbs (l + 1 + argNl b) _ _ (rowRArg c b hb (l + 1)))

/-! ### commands -/

theorem rows_chars (r : String) (rs : List String) : (",\n    ".intercalate (r :: rs)).toList = r.toList ++ moreChars rs :=
  toList_intercalate_cons ",\n    " r rs

/-- a command the theorem covers: result name and command name are identifiers, every argument is covered -/
def CmdCovered (c : PCmd) : Prop := IsIdent c.resultName ∧ IsIdent c.decl.name ∧ ∀ a ∈ c.args, ArgCovered c a

/-- the line of the closing parenthesis, for a command that starts on line `L`; without arguments the serializer still writes the (empty)
indented line between `(` and `)`, hence `L + 2` -/
def cmdEnd (c : PCmd) (L : Nat) : Nat := match c.args with | [] => L + 2 | a :: as => moreEnd as (L + 1 + argNl a) + 1

def cmdToks (c : PCmd) (L : Nat) : List Tok :=
  ⟨.id, .str c.resultName, L⟩ :: ⟨.equal, .none, L⟩ :: ⟨.id, .str c.decl.name, L⟩ :: ⟨.lparen, .none, L⟩ ::
    (match c.args with
     | [] => [⟨.rparen, .none, L + 2⟩]
     | a :: as => (rowToks c a (L + 1) ++ moreToks c as (L + 1 + argNl a)) ++ [⟨.rparen, .none, moreEnd as (L + 1 + argNl a) + 1⟩])

def cmdNode (c : PCmd) (L : Nat) : CNode :=
  ⟨some c.resultName, c.decl.name, (match c.args with | [] => [] | a :: as => argNode c a (L + 1) :: moreNodes c as (L + 1 + argNl a)), L⟩

theorem serializeCommand_eq (c : PCmd) : serializeCommand c =
    (rowTexts c c.args).map fun rows => c.resultName ++ " = " ++ c.decl.name ++ "(" ++ "\n    " ++ ",\n    ".intercalate rows ++ "\n" ++ ")" := rfl

theorem cmdSeg (c : PCmd) (h : CmdCovered c) (txt : String) (ht : serializeCommand c = some txt) (rest : List Char) (L : Nat) :
    lexS (txt.toList ++ rest) L = cmdToks c L ++ lexS rest (cmdEnd c L) := by
  rw [serializeCommand_eq] at ht
  obtain ⟨rows, hr, rfl⟩ := Option.map_eq_some_iff.mp ht
  obtain ⟨hR, hC, hA⟩ := h
  chars
  rw [spells_identStr _ hR _ L (stopsAt_cons (by decide)), lexS_sp, lexS_punct '=' .equal _ L (by decide), lexS_sp,
    spells_identStr _ hC _ L (stopsAt_cons (by decide)), lexS_punct '(' .lparen _ L (by decide), lexS_lf]
  simp only [lexS_sp]
  unfold cmdToks cmdEnd
  cases hargs : c.args with
  | nil =>
    rw [hargs] at hr
    obtain rfl : [] = rows := by simpa [rowTexts] using hr
    rw [String.intercalate_nil]
    chars
    rw [lexS_lf, lexS_punct ')' .rparen _ _ (by decide)]
  | cons a as =>
    rw [hargs] at hr hA
    obtain ⟨ha, has⟩ := List.forall_mem_cons.mp hA
    obtain ⟨t, rs, hta, hrs, rfl⟩ := rowTexts_cons hr
    have hend : RowEnd ('\n' :: ')' :: rest) := ⟨'\n', _, rfl, Or.inr rfl⟩
    rw [rows_chars, List.append_assoc, rowSeg c a ha t hta _ (L + 1) (rowEnd_more rs _ hend),
      moreSeg c as has rs hrs _ (L + 1 + argNl a) hend, lexS_lf, lexS_punct ')' .rparen _ _ (by decide)]
    simp only [List.cons_append, List.append_assoc, List.nil_append]

theorem cmdRCmd (c : PCmd) (h : CmdCovered c) (L : Nat) : RCmd (cmdToks c L) (cmdNode c L) := by
  obtain ⟨_, _, hA⟩ := h
  unfold cmdToks cmdNode
  cases hargs : c.args with
  | nil => exact RCmd.noArgs _ _ L L L L (L + 2)
  | cons a as =>
    rw [hargs] at hA
    obtain ⟨ha, has⟩ := List.forall_mem_cons.mp hA
    exact RCmd.args _ _ L L L L _ _ _ (moreRArgs c as has (L + 1 + argNl a) _ _ (rowRArg c a ha (L + 1)))

/-! ### programs -/

def progToks : List PCmd → Nat → List Tok
  | [], _ => []
  | [c], L => cmdToks c L
  | c :: d :: cs, L => cmdToks c L ++ progToks (d :: cs) (cmdEnd c L + 1)

def progNodes : List PCmd → Nat → List CNode
  | [], _ => []
  | [c], L => [cmdNode c L]
  | c :: d :: cs, L => cmdNode c L :: progNodes (d :: cs) (cmdEnd c L + 1)

def moreCmdChars (ts : List String) : List Char := ts.flatMap fun t => '\n' :: t.toList

theorem prog_chars (t : String) (ts : List String) : ("\n".intercalate (t :: ts)).toList = t.toList ++ moreCmdChars ts :=
  toList_intercalate_cons "\n" t ts

theorem progSeg : ∀ (cs : List PCmd) (c : PCmd), (∀ d ∈ c :: cs, CmdCovered d) → ∀ (t : String) (ts : List String),
    serializeCommand c = some t → cs.mapM serializeCommand = some ts → ∀ L,
    lexS (t.toList ++ moreCmdChars ts) L = progToks (c :: cs) L := by
  intro cs
  induction cs with
  | nil =>
    intro c h t ts ht hts L
    obtain rfl : [] = ts := by simpa using hts
    rw [moreCmdChars, List.flatMap_nil, cmdSeg c (h c (List.mem_cons_self ..)) t ht [] L, lexS_nil, List.append_nil]
    rfl
  | cons d ds ih =>
    intro c h t ts ht hts L
    obtain ⟨hc, hds⟩ := List.forall_mem_cons.mp h
    obtain ⟨u, us, hu, hus, rfl⟩ := mapM_cons_some hts
    rw [moreCmdChars, List.flatMap_cons, ← moreCmdChars]
    chars
    rw [cmdSeg c hc t ht _ L, lexS_lf, ih d hds u us hu hus _]
    rfl

theorem progRProg : ∀ (cs : List PCmd) (c : PCmd), (∀ d ∈ c :: cs, CmdCovered d) → ∀ L, RProg (progToks (c :: cs) L) (progNodes (c :: cs) L)
  | [], c, h, L => RProg.one _ _ (cmdRCmd c (h c (List.mem_cons_self ..)) L)
  | d :: ds, c, h, L =>
      have ⟨hc, hds⟩ := List.forall_mem_cons.mp h
      RProg.cons _ _ _ _ (cmdRCmd c hc L) (progRProg ds d hds _)

/-- a program the theorem covers: every command is covered, and there is one - the text of none is empty, which the parser rejects
(`C10R.empty_rejected`) -/
def ProgCovered (p : Program) : Prop := p.cmds ≠ [] ∧ ∀ c ∈ p.cmds, CmdCovered c

/-- **C15 (whole programs).**  The text `to_string()` writes for a program - commands in order, one argument per line, strings quoted,
integers in decimal, references, booleans and `None` as words, lists to any depth - is read back by the parser as the parse tree `progNodes p.cmds 1` built above from the program:
the same commands in the same order, the same argument names, every value as `valNode` gives it (strings, references, booleans and `None` as
their text, integers and decimals as numbers, lists as lists), version 3, every node on the line the serializer put it on.
(Covered: result, command and argument names that are identifiers; values that are strings, integers, decimals (every rational the
serializer can print: terminating, at most 400 places - which includes the exact value of every double's shortest `repr` in positional range),
booleans, `None`, references and lists of these; metadata tuples of any length, whose values - numbers included - are written as quoted
text and come back as that text, the map built from the last pair backwards as the parser does.  Where the serializer has no text for a
value, `serializeProgram` is `none` and the theorem does not apply.) -/
theorem serialize_parse_roundtrip (p : Program) (h : ProgCovered p) (txt : String) (ht : serializeProgram p = some txt) :
    parse txt = .ok ⟨progNodes p.cmds 1, 3⟩ := by
  obtain ⟨hne, hc⟩ := h
  unfold serializeProgram at ht
  obtain ⟨texts, hm, rfl⟩ := Option.map_eq_some_iff.mp ht
  cases hcs : p.cmds with
  | nil => exact absurd hcs hne
  | cons c cs =>
    rw [hcs] at hm hc
    obtain ⟨t, ts, htc, hts, rfl⟩ := mapM_cons_some hm
    rw [parse, lex_eq_lexS, prog_chars, progSeg cs c hc t ts htc hts 1]
    exact program_renders (progRProg cs c hc 1)

/-- non-vacuity: decimals are printed and read back (`-1234.5678`, `0.001`, `3.0`) -/
example : positional (-12345678 / 10000) = some "-1234.5678" ∧ positional (1 / 1000) = some "0.001" ∧ positional 3 = some "3.0" ∧
    positional (1 / 3) = none := by
  decide +kernel

end MPilot.C15P
