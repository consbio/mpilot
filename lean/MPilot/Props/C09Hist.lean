/-
C09 — histories: "no matter which other commands later consume it, in which order, or how many times".

`execH_preserves` (Props/C09.lean) is the one-step statement.  Here it is lifted to every history of command executions over the heap
of live results - any commands, any order, any repetition, failing executions included (`runOps`) - by induction over the history:

* `history_preserves`: every object that exists at some point of the history is visibly unchanged (element type, shape, missing cells,
  non-missing values) at every later point;
* the premise of the one-step theorem (the single-input FuzzyOr / FuzzyAnd hand their input back and limit it in place, which is invisible
  only for values inside [-1, 1]) is *discharged along the way* rather than assumed: `Disc` only asks that every FuzzyOr / FuzzyAnd of the
  history - with one input or several - is given objects that were produced by fuzzy-producing commands earlier in the same history (what
  parameter validation enforces: `is_fuzzy`), or that were in range to begin with; C04's `fuzzy_range` supplies the range for the former, and
  `inRange_of_ArrR` carries it across later steps;
* that an execution returns what the pure semantics `exec` computes on the objects as they are then is the one-step `execH_refines`
  (Props/C09.lean), used inside `stepOp_ok`; no theorem of this file restates it for whole histories.
-/
import MPilot.Props.C09
import MPilot.Lemmas.List

namespace MPilot.C09

theorem CellR.symm' {c d : Cell} (h : CellR c d) : CellR d c :=
  ⟨h.1.symm, fun hm => (h.2 (by rw [h.1]; exact hm)).symm⟩

/-- being inside the fuzzy range is a property of what is visible -/
theorem inRange_of_ArrR {a' a : Arr} (h : ArrR a' a) (ha : C04.InFuzzyRange a) : C04.InFuzzyRange a' := by
  intro c hc hm
  obtain ⟨d, hd, hcd⟩ := forall₂_mem_left h.2.2 hc
  rw [hcd.2 hm]
  exact ha d hd (hcd.1 ▸ hm)

/-- one execution of the history: a command and the objects it is given -/
structure Op where
  cmd : DataCmd
  ids : List ObjId

/-- state of a history: the heap of live results and the objects known to hold fuzzy values -/
abbrev HState := Heap × List ObjId

/-- one step: a failing execution changes nothing; a successful one yields its result object, recorded as fuzzy when the command is a fuzzy producer -/
def stepOp (sqrt : Rat → Rat) (s : HState) (op : Op) : HState :=
  match execH sqrt op.cmd op.ids s.1 with
  | .ok (rid, h') => (h', if op.cmd.isFuzzyProducer then rid :: s.2 else s.2)
  | .error _ => s

def runOps (sqrt : Rat → Rat) (ops : List Op) (s : HState) : HState := ops.foldl (stepOp sqrt) s

/-- the typing discipline parameter validation enforces: every FuzzyOr / FuzzyAnd of the history, whatever its number of inputs, is only given
objects recorded as fuzzy -/
def Disc (sqrt : Rat → Rat) : List Op → HState → Prop
  | [], _ => True
  | op :: ops, s => ((op.cmd = .fuzzyOr ∨ op.cmd = .fuzzyAnd) → ∀ id ∈ op.ids, id ∈ s.2) ∧ Disc sqrt ops (stepOp sqrt s op)

/-- `Disc` as a Boolean, so that the example at the end of the file can compute it -/
def discB (sqrt : Rat → Rat) : List Op → HState → Bool
  | [], _ => true
  | op :: ops, s =>
    (match op.cmd with
     | .fuzzyOr | .fuzzyAnd => op.ids.all (fun id => s.2.contains id)
     | _ => true) && discB sqrt ops (stepOp sqrt s op)

theorem disc_of_discB (sqrt : Rat → Rat) : ∀ (ops : List Op) (s : HState), discB sqrt ops s = true → Disc sqrt ops s
  | [], _, _ => trivial
  | op :: ops, s, h => by
    simp only [discB, Bool.and_eq_true] at h
    refine ⟨?_, disc_of_discB sqrt ops _ h.2⟩
    intro hc id hid
    have h1 := h.1
    rcases hc with hc | hc <;> rw [hc] at h1 <;> simp only [List.all_eq_true] at h1 <;> simpa using h1 id hid

/-- every object recorded as fuzzy is on the heap and holds values of the fuzzy range -/
def FuzzyInv (s : HState) : Prop := ∀ id ∈ s.2, ∃ a, s.1[id]? = some a ∧ C04.InFuzzyRange a

/-- one step keeps every object visibly unchanged and keeps the fuzzy record truthful -/
theorem stepOp_ok (sqrt : Rat → Rat) (s : HState) (op : Op) (hinv : FuzzyInv s)
    (hd : (op.cmd = .fuzzyOr ∨ op.cmd = .fuzzyAnd) → ∀ id ∈ op.ids, id ∈ s.2) :
    (∀ (id : ObjId) (a : Arr), s.1[id]? = some a → ∃ a', (stepOp sqrt s op).1[id]? = some a' ∧ ArrR a' a) ∧ FuzzyInv (stepOp sqrt s op) := by
  unfold stepOp
  cases hx : execH sqrt op.cmd op.ids s.1 with
  | error e => exact ⟨fun id a h => ⟨a, h, ArrR.refl a⟩, hinv⟩
  | ok res =>
    obtain ⟨rid, h'⟩ := res
    have hpres := execH_preserves sqrt op.cmd op.ids s.1 h' rid
      (fun hc id hid a ha => by
        obtain ⟨b, hb, hr⟩ := hinv id (hd hc id hid)
        rw [hb] at ha; injection ha with ha; subst ha; exact hr) hx
    -- objects recorded before: still there, visibly equal to an in-range object
    have hold : ∀ id ∈ s.2, ∃ a, h'[id]? = some a ∧ C04.InFuzzyRange a := by
      intro id hin
      obtain ⟨b, hb, hr⟩ := hinv id hin
      obtain ⟨a', ha', hR⟩ := hpres id b hb
      exact ⟨a', ha', inRange_of_ArrR hR hr⟩
    refine ⟨hpres, fun id hid => ?_⟩
    dsimp only at hid
    split at hid
    · rename_i hf
      rcases List.mem_cons.mp hid with rfl | hid
      · -- the result object of a fuzzy producer is in range by C04
        obtain ⟨xs, _, hxs, -⟩ := execH_ok hx
        obtain ⟨r, hr, hget⟩ := execH_refines sqrt op.cmd op.ids s.1 h' id xs hxs hx
        exact ⟨r, hget, C04.fuzzy_range sqrt op.cmd xs r hf hr⟩
      · exact hold id hid
    · exact hold id hid

/-- **C09 for histories.** Over any history of executions - any commands, on any of the live objects, in any order, any number of times,
failing ones included - in which FuzzyOr and FuzzyAnd are only ever given fields recorded as fuzzy (`Disc`), every object on the heap at the
start is visibly unchanged at the end: same element type, same shape, same missing cells, same non-missing values. -/
theorem history_preserves (sqrt : Rat → Rat) : ∀ (ops : List Op) (s : HState), FuzzyInv s → Disc sqrt ops s →
    (∀ (id : ObjId) (a : Arr), s.1[id]? = some a → ∃ a', (runOps sqrt ops s).1[id]? = some a' ∧ ArrR a' a) ∧ FuzzyInv (runOps sqrt ops s)
  | [], s, hinv, _ => ⟨fun id a h => ⟨a, h, ArrR.refl a⟩, hinv⟩
  | op :: ops, s, hinv, hd => by
    obtain ⟨h1, hinv1⟩ := stepOp_ok sqrt s op hinv hd.1
    obtain ⟨h2, hinv2⟩ := history_preserves sqrt ops (stepOp sqrt s op) hinv1 hd.2
    refine ⟨?_, hinv2⟩
    intro id a ha
    obtain ⟨a1, ha1, hR1⟩ := h1 id a ha
    obtain ⟨a2, ha2, hR2⟩ := h2 id a1 ha1
    exact ⟨a2, ha2, hR2.trans hR1⟩

/-- the same from any point of the history on: an object that exists after the executions `before` is unchanged by everything after them -/
theorem history_preserves_from (sqrt : Rat → Rat) (before after : List Op) (s : HState) (hinv : FuzzyInv s) (hd : Disc sqrt (before ++ after) s)
    (id : ObjId) (a : Arr) (ha : (runOps sqrt before s).1[id]? = some a) :
    ∃ a', (runOps sqrt (before ++ after) s).1[id]? = some a' ∧ ArrR a' a := by
  have hsplit : ∀ (b : List Op) (s : HState), Disc sqrt (b ++ after) s → FuzzyInv s →
      Disc sqrt after (runOps sqrt b s) ∧ FuzzyInv (runOps sqrt b s) := by
    intro b
    induction b with
    | nil => intro s hd hi; exact ⟨hd, hi⟩
    | cons op b ih =>
      intro s hd hi
      exact ih (stepOp sqrt s op) hd.2 (stepOp_ok sqrt s op hi hd.1).2
  obtain ⟨hd2, hinv2⟩ := hsplit before s hd hinv
  rw [runOps, List.foldl_append]
  exact (history_preserves sqrt after (runOps sqrt before s) hinv2 hd2).1 id a ha

/-- non-vacuity: a fuzzy field is made (CvtToFuzzy), consumed by FuzzyNot, twice by the single-input FuzzyOr (which hands it back and limits
it in place) and by FuzzyAnd together with the negation: object 1 is still what it was -/
example :
    let raw : Arr := ⟨.float, [3], [⟨0, false⟩, ⟨5, false⟩, ⟨10, true⟩]⟩
    let ops : List Op := [⟨.cvtToFuzzy (some ⟨10, true⟩) (some ⟨0, true⟩) none, [0]⟩, ⟨.fuzzyNot, [1]⟩, ⟨.fuzzyOr, [1]⟩, ⟨.fuzzyOr, [1]⟩, ⟨.fuzzyAnd, [1, 2]⟩]
    Disc (fun x => x) ops ([raw], []) ∧ FuzzyInv ([raw], []) ∧
      ((runOps (fun x => x) ops ([raw], [])).1[1]?).map (·.cells.map Cell.vis) = some [some (-1 : Rat), some 0, none] := by
  refine ⟨?_, ?_, ?_⟩
  · exact disc_of_discB _ _ _ (by decide +kernel)
  · intro id hid; cases hid
  · decide +kernel

end MPilot.C09
