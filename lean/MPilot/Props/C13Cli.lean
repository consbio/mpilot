/-
C13 / C11 — the command-line tool (`Model/Cli`, `mpilot/cli/mpilot.py`): how it reports an MPilot error, a missing file and success; that the
line it marks is the line of the file the error names, shown between its neighbours in file order; and that the text handed to the loader has
exactly the file's lines - line `n` of what the parser numbers is line `n` of what the tool indexes, whether the file is written with LF, CRLF
or CR line ends and whether or not its last line is terminated.
The premise `n ≤ lines.length` of `marks_offending_line` (an error names a line of the file) is assumed: C11 says which token's line an error
carries (`C11.load_error_line`, `C11X.lex_line_exact`), no theorem bounds that line by the number of lines of the file.  The model's branch for a line beyond the file (an `IndexError` leaves `main`) is compared with the real tool by the correspondence.
-/
import MPilot.Model.Cli

namespace MPilot.C13Cli
open MPilot.Cli

theorem splitNl_single : ∀ l : List Char, '\n' ∉ l → splitNl l = [l]
  | [], _ => rfl
  | c :: r, h => by
    have hc : c ≠ '\n' := fun e => h (by simp [e])
    have hr : '\n' ∉ r := fun e => h (by simp [e])
    rw [splitNl, if_neg hc, splitNl_single r hr]

theorem splitNl_append : ∀ (l r : List Char), '\n' ∉ l → splitNl (l ++ '\n' :: r) = l :: splitNl r
  | [], r, _ => by simp [splitNl]
  | c :: l, r, h => by
    have hc : c ≠ '\n' := fun e => h (by simp [e])
    have hl : '\n' ∉ l := fun e => h (by simp [e])
    show splitNl (c :: (l ++ '\n' :: r)) = _
    rw [splitNl, if_neg hc, splitNl_append l r hl]

theorem splitNl_joinNl : ∀ ls : List (List Char), ls ≠ [] → (∀ l ∈ ls, '\n' ∉ l) → splitNl (joinNl ls) = ls
  | [], h, _ => absurd rfl h
  | [l], _, h => by simpa [joinNl] using splitNl_single l (h l (by simp))
  | l :: m :: ls, _, h => by
    show splitNl (l ++ '\n' :: joinNl (m :: ls)) = _
    rw [splitNl_append l _ (h l (by simp)), splitNl_joinNl (m :: ls) (by simp) (fun x hx => h x (by simp [hx]))]

theorem splitNl_chars : ∀ (t : List Char), ∀ l ∈ splitNl t, ∀ x ∈ l, x ≠ '\n' ∧ x ∈ t := by
  intro t
  fun_induction splitNl t with
  | case1 => simp
  -- a line feed opens an empty piece
  | case2 r ih => exact List.forall_mem_cons.mpr ⟨nofun, fun l hl x hx => (ih l hl x hx).imp_right (List.mem_cons_of_mem _)⟩
  | case3 c r hc hs ih => simpa using hc
  -- any other character joins the first piece of the rest
  | case4 c r hc l0 ls hs ih =>
    obtain ⟨h0, hls⟩ := List.forall_mem_cons.mp (hs ▸ ih)
    exact List.forall_mem_cons.mpr ⟨List.forall_mem_cons.mpr ⟨⟨hc, List.mem_cons_self⟩, fun x hx => (h0 x hx).imp_right (List.mem_cons_of_mem c)⟩,
      fun l hl x hx => (hls l hl x hx).imp_right (List.mem_cons_of_mem c)⟩

theorem univGo_no_cr : ∀ (t : List Char) (b : Bool), '\r' ∉ univGo b t := by
  intro t b
  fun_induction univGo b t with
  | case1 => simp
  | case2 b r ih => simpa using ih
  | case3 b c r hc hn ih => exact ih
  | case4 b c r hc hn ih => exact fun hm => (List.mem_cons.mp hm).elim (fun e => hc e.symm) ih

theorem univ_no_cr (t : List Char) : '\r' ∉ univ t := univGo_no_cr t false

/-- **the lines the tool holds are free of line ends**: stripping `"\n\r"` removes the line end and nothing else -/
theorem fileLines_clean (text : List Char) : ∀ l ∈ fileLines text, '\n' ∉ l ∧ '\r' ∉ l := by
  intro l hl
  have hl' : l ∈ splitNl (univ text) := by
    unfold fileLines at hl
    simp only at hl
    split at hl
    · exact List.dropLast_subset _ hl
    · exact hl
  exact ⟨fun h => (splitNl_chars _ l hl' _ h).1 rfl, fun h => univ_no_cr text (splitNl_chars _ l hl' _ h).2⟩

/-- **the loader reads exactly the file's lines**: the text handed to `Program.from_source`, cut at its line feeds - which is how the parser
numbers lines - is the list of lines the tool indexes when it marks line `n` -/
theorem source_lines (text : List Char) (h : fileLines text ≠ []) : splitNl (source text) = fileLines text :=
  splitNl_joinNl _ h (fun l hl => (fileLines_clean text l hl).1)

/-- the same four lines (the third one empty) whether written with LF, CRLF or CR, with or without a final line end; an empty file has no line,
a lone line feed one empty line -/
theorem fileLines_lf_crlf :
    fileLines "a = B()\nc = D()\n\ne".toList = ["a = B()".toList, "c = D()".toList, [], ['e']] ∧
    fileLines "a = B()\r\nc = D()\r\n\r\ne\r\n".toList = ["a = B()".toList, "c = D()".toList, [], ['e']] ∧
    fileLines "a = B()\rc = D()\r\re\r".toList = ["a = B()".toList, "c = D()".toList, [], ['e']] ∧
    fileLines [] = [] ∧ fileLines ['\n'] = [[]] := by
  decide +kernel

/-- **C13: an MPilot error is reported** - exit status -1 (non-zero), no exception leaves the tool, and standard error starts with the header
line followed by the error's own text, for every error that names no line or a line of the file -/
theorem mp_error_reported (path text msg : List Char) (isProg : Bool) (lineno : Option Nat) (outcome : List (List Char) → Outcome)
    (ho : outcome (fileLines text) = .mpError msg isProg lineno)
    (hline : ∀ n, isProg = true → lineno = some n → 1 ≤ n ∧ n ≤ (fileLines text).length) :
    let r := main true path text outcome
    r.exit = -1 ∧ r.exit ≠ 0 ∧ r.crash = none ∧ (header ++ '\n' :: msg ++ ['\n']) <+: r.stderr := by
  simp only [main, Bool.not_true, Bool.false_eq_true, if_false, ho]
  cases isProg with
  | false => cases lineno <;> simp
  | true =>
    cases lineno with
    | none => simp
    | some n =>
      obtain ⟨h1, h2⟩ := hline n rfl rfl
      have hn : n ≠ 0 := by omega
      have hlt : n - 1 < (fileLines text).length := by omega
      simp only [hn, if_false, List.getElem?_eq_getElem hlt]
      simp

/-- **C11: the marked line is the line the error names** - standard error is the header, the message, and the excerpt whose `-->` line is line
`n` of the file (1-based), preceded by the (up to three) lines above it and followed by the (up to two) lines below it, in file order -/
theorem marks_offending_line (path text msg : List Char) (n : Nat) (outcome : List (List Char) → Outcome)
    (ho : outcome (fileLines text) = .mpError msg true (some n)) (h1 : 1 ≤ n) (h2 : n ≤ (fileLines text).length) :
    ∃ l, (fileLines text)[n - 1]? = some l ∧
      (main true path text outcome).stderr =
        header ++ '\n' :: msg ++ ['\n'] ++
          (joinNl ((before (fileLines text) (n - 1)).map indent) ++ '\n' :: marker l ++ '\n' ::
           joinNl ((after (fileLines text) (n - 1)).map indent) ++ ['\n']) := by
  have hn : n ≠ 0 := by omega
  have hlt : n - 1 < (fileLines text).length := by omega
  refine ⟨(fileLines text)[n - 1], List.getElem?_eq_getElem hlt, ?_⟩
  simp only [main, Bool.not_true, Bool.false_eq_true, if_false, ho, hn, List.getElem?_eq_getElem hlt, excerpt]

/-- obligation on the regenerated literal (`LINE_CONTEX_LENGTH` in the source), needed by `excerpt_contiguous`: the lines below the marked one end
at `min (idx + contextLength) lines.length`, which has to lie beyond `idx` for the three pieces to be one stretch (with 0 the marked line would
be shown and the stretch would be empty) -/
theorem context_positive : 0 < contextLength := by decide

theorem take_drop_cut {α : Type} (l : List α) (a k m : Nat) (hi : a + k < l.length) :
    (l.drop a).take (k + (m + 1)) = (l.drop a).take k ++ l[a + k] :: (l.drop (a + k + 1)).take m := by
  rw [List.take_add, List.drop_drop, List.drop_eq_getElem_cons hi, List.take_succ_cons]

/-- the lines shown above are the ones right above line `idx + 1`, in file order: `before` followed by the line itself and `after` is a
contiguous stretch of the file -/
theorem excerpt_contiguous (lines : List (List Char)) (idx : Nat) (l : List Char) (h : lines[idx]? = some l) :
    before lines idx ++ l :: after lines idx = (lines.drop (idx - contextLength)).take (min (idx + contextLength) lines.length - (idx - contextLength)) := by
  obtain ⟨hlt, rfl⟩ := List.getElem?_eq_some_iff.mp h
  have hK := context_positive
  obtain ⟨k, hk⟩ := Nat.exists_eq_add_of_le (Nat.sub_le idx contextLength)
  rw [before, after]
  generalize idx - contextLength = a at hk ⊢
  subst hk
  rw [Nat.add_sub_cancel_left, ← take_drop_cut lines a k _ hlt]
  -- the lengths agree because `a + k < lines.length` (`hlt`) and `0 < contextLength` (`hK`)
  congr 1; omega

/-- every context line (`before`, `after` mapped through `indent`) begins with the tool's blanks (four in the pinned source); that these are
the lines written around the marked one is `marks_offending_line` -/
theorem context_indented (lines : List (List Char)) (idx : Nat) :
    ∀ x ∈ (before lines idx).map indent ++ (after lines idx).map indent, ∃ y, x = List.replicate Generated.cliIndentWidth ' ' ++ y := by
  intro x hx
  rcases List.mem_append.mp hx with hx | hx <;>
  · obtain ⟨y, _, rfl⟩ := List.mem_map.mp hx
    exact ⟨y, rfl⟩

/-- success: exit status 0 and nothing on standard error -/
theorem success_silent (path text : List Char) (outcome : List (List Char) → Outcome) (ho : outcome (fileLines text) = .done) :
    main true path text outcome = { exit := 0, stderr := [], crash := none } := by
  simp [main, ho]

/-- a command file that does not exist: problem/solution text, exit status -1, nothing loaded (the outcome function is never asked) -/
theorem missing_file_reported (path text : List Char) (o1 o2 : List (List Char) → Outcome) :
    main false path text o1 = main false path text o2 ∧ (main false path text o1).exit = -1 ∧
    (main false path text o1).stderr = missingFile path := by
  simp [main]

/-- an exception that is no MPilot error is not swallowed and never turned into a success: it leaves the tool (traceback, status 1) -/
theorem other_exception_not_success (path text : List Char) (e : String) (outcome : List (List Char) → Outcome)
    (ho : outcome (fileLines text) = .other e) : (main true path text outcome).exit ≠ 0 ∧ (main true path text outcome).crash = some e := by
  simp [main, ho]

/-- non-vacuity: a fault on line 5 of a seven-line file written with CRLF line ends (stated with the regenerated literals, so a reworded header or
another context length in the source does not touch it): the premises of `marks_offending_line` hold and the marked line is line 5 -/
example :
    let text := ['#', '1', '\r', '\n', '#', '2', '\r', '\n', 'A', '\r', '\n', '\r', '\n', 'B', 'a', 'd', '\r', '\n', '#', '6', '\r', '\n', '#', '7', '\r', '\n']
    fileLines text = [['#', '1'], ['#', '2'], ['A'], [], ['B', 'a', 'd'], ['#', '6'], ['#', '7']] ∧ (fileLines text)[5 - 1]? = some ['B', 'a', 'd'] ∧
    (main true ['m'] text (fun _ => .mpError ['p'] true (some 5))).exit = -1 ∧
    (main true ['m'] text (fun _ => .mpError ['p'] true (some 5))).stderr =
      header ++ '\n' :: ['p'] ++ ['\n'] ++ excerpt (fileLines text) 4 ['B', 'a', 'd'] := by
  -- standard error by `rfl`: both sides begin with the same `header`, which `decide` would spell out (`String.toList` of the literal)
  refine ⟨?_, ?_, ?_, rfl⟩ <;> decide +kernel

end MPilot.C13Cli
