/-
C20 - "integers stay integers", at any magnitude, when they are written as text.

`clean_int_stays_int` (Props/C20.lean) is about integer values.  A number given as TEXT (a quoted value in a command file, a list item, an API
string) goes through Python's `int(text)` first: `num_text_digits_exact` - a run of decimal digits of ANY length is
cleaned to exactly the whole number it spells: no route through a decimal, no rounding beyond 2^53, no overflow at hundreds of digits.
-/
import MPilot.Model.Params

namespace MPilot.C20N

theorem digit_not_ws {c : Char} (h : c.isDigit = true) : isWs c = false := by
  rw [← Bool.not_eq_true]
  intro hw
  simp only [isWs, Bool.or_eq_true, beq_iff_eq] at hw
  rcases hw with ((((rfl | rfl) | rfl) | rfl) | rfl) | rfl <;> exact absurd h (by decide)

theorem dropWhile_ws_digits : ∀ (ds : List Char), (∀ c ∈ ds, c.isDigit = true) → ds.dropWhile isWs = ds
  | [], _ => rfl
  | c :: r, hd => by
    rw [List.dropWhile_cons_of_neg]
    simp [digit_not_ws (hd c List.mem_cons_self)]

theorem stripWs_digits (ds : List Char) (hne : ds ≠ []) (hd : ∀ c ∈ ds, c.isDigit = true) : stripWs ds = ds := by
  unfold stripWs
  rw [dropWhile_ws_digits ds hd, dropWhile_ws_digits ds.reverse fun c hc => hd c (List.mem_reverse.mp hc), List.reverse_reverse]

theorem go_digits : ∀ (r acc : List Char), (∀ c ∈ r, c.isDigit = true) → digitsUnderscore.go r acc = some (acc.reverse ++ r)
  | [], acc, _ => by simp [digitsUnderscore.go]
  | d :: r, acc, hd => by
    have hdd : d.isDigit = true := hd d List.mem_cons_self
    have hne : d ≠ '_' := by intro e; subst e; simp [Char.isDigit] at hdd
    -- the equation of the last arm of `go` holds for input that the underscore arm before it does not match: the side goal
    rw [digitsUnderscore.go]
    · simp only [hdd, if_true]
      rw [go_digits r (d :: acc) (fun c hc => hd c (List.mem_cons_of_mem _ hc))]
      simp
    · intro d' r' h _; exact hne h

theorem digitsUnderscore_digits (ds : List Char) (hne : ds ≠ []) (hd : ∀ c ∈ ds, c.isDigit = true) : digitsUnderscore ds = some ds := by
  cases ds with
  | nil => exact absurd rfl hne
  | cons c r =>
    unfold digitsUnderscore
    simp only [hd c List.mem_cons_self, Bool.not_true, Bool.false_eq_true, if_false]
    rw [go_digits r [c] (fun x hx => hd x (List.mem_cons_of_mem _ hx))]
    simp

/-- **a whole number written as text is cleaned to exactly that whole number, however many digits it has** -/
theorem num_text_digits_exact (ctx : Ctx) (ds : List Char) (hne : ds ≠ []) (hd : ∀ c ∈ ds, c.isDigit = true) :
    clean ctx .num (.str (String.ofList ds)) = .ok (.int (natOfDigits ds)) := by
  have hint : pyInt (String.ofList ds) = some (natOfDigits ds : Int) := by
    unfold pyInt
    simp only [String.toList_ofList, stripWs_digits ds hne hd]
    cases ds with
    | nil => exact absurd rfl hne
    | cons c r =>
      have hc := hd c List.mem_cons_self
      have h1 : c ≠ '-' := by intro e; subst e; simp [Char.isDigit] at hc
      have h2 : c ≠ '+' := by intro e; subst e; simp [Char.isDigit] at hc
      split
      · rename_i heq; injection heq with h _; exact absurd h h1
      · rename_i heq; injection heq with h _; exact absurd h h2
      · rename_i heq
        simp only at heq ⊢
        rw [digitsUnderscore_digits (c :: r) (by simp) hd]
        rfl
  unfold clean
  simp only [hint]

/-- non-vacuity: 2^53 + 1, written as text -/
example (ctx : Ctx) : clean ctx .num (.str (String.ofList ['9', '0', '0', '7', '1', '9', '9', '2', '5', '4', '7', '4', '0', '9', '9', '3'])) = .ok (.int 9007199254740993) := by
  rw [num_text_digits_exact ctx _ (by simp) (by decide)]
  rfl

end MPilot.C20N
