/-
C05 — results keep the input shape; cells are computed independently.
-/
import MPilot.Lemmas.PlanProps

namespace MPilot.C05

theorem mapCells_shape (f : Cell → Cell) (a : Arr) : (a.mapCells f).shape = a.shape := rfl
theorem insure_shape (lo hi : Rat) (a : Arr) : (a.insure lo hi).shape = a.shape := rfl
theorem linMap_shape (x1 x2 y1 y2 : Rat) (a : Arr) : (linMap x1 x2 y1 y2 a).shape = a.shape := rfl
theorem curveArr_shape (a : Arr) (pts) : (curveArr a pts).shape = a.shape := rfl

/-- split every `if`/`match` of hypothesis `h : … = .ok r`, discard error branches, close `ok` branches by `tac` -/
macro "ok_cases" h:ident " => " tac:tacticSeq : tactic =>
  `(tactic| (repeat' (first | split at $h:ident | (dsimp only at $h:ident))
             all_goals first
               | exact absurd $h:ident (eRaw_ne_ok _ _)
               | exact absurd $h:ident (eMp_ne_ok _ _ _)
               | ($tac)))

theorem stackMap_shape (f) (a : Arr) (t : List Arr) : (stackMap (a :: t) f).shape = a.shape := rfl

/-- **C05 (shape).** A data command that succeeds returns an array of exactly the shape of its first input, for any
number of dimensions.  (Inputs of differing shapes are rejected with `MixedArrayShapes`, so this is "the shape of its inputs".) -/
theorem shape_preserved (sqrt : Rat → Rat) (c : DataCmd) (a : Arr) (t : List Arr) (r : Arr)
    (h : exec sqrt c (a :: t) = .ok r) : r.shape = a.shape := by
  obtain ⟨p, hp, rfl⟩ := exec_ok h
  have hs := scaled_spec (plan_ok hp).1
  generalize c.scaled (a :: t) = ys at hs
  cases hs with
  | cons hb _ =>
    rw [p.run_shape]
    rcases hb with rfl | ⟨w, rfl⟩ <;> rfl

/-- **C05 (cells are computed independently).**  Apply one rearrangement to every input - the same permutation `σ` of the cell positions
and/or a new shape `s` (e.g. a vector reshaped to a grid) - and the outcome is the original outcome rearranged in exactly the same way:
the same error, or the same cells at the new positions under the new shape, hidden payloads included.  All 31 commands, whole-array
statistics (minimum, maximum, mean, standard deviation, mean-to-mid points) included.  (Inputs: one common shape and `n` cells each.  Without
`hs` the statement is false: the new common shape `s` would repair inputs of differing shapes, which every command rejects.) -/
theorem rearr_equivariant (sqrt : Rat → Rat) (c : DataCmd) (xs : List Arr) (n : Nat) (s σ : List Nat) (hσ : σ.Perm (List.range n))
    (hn : ∀ a ∈ xs, a.cells.length = n) (hs : SameShape xs) :
    exec sqrt c (xs.map (Arr.rearr s σ)) = (exec sqrt c xs).map (Arr.rearr s σ) := by
  rw [exec_eq, exec_eq, view_rearr s σ n hσ hn hs, scaled_rearr]
  cases hp : plan sqrt c (view xs) with
  | error e => rfl
  | ok p =>
    obtain ⟨hk, hv, -⟩ := plan_ok hp
    exact congrArg Except.ok (p.run_rearr s σ n hσ (scaled_ne_nil hk hv) (scaled_length hk hn)).symm

/-- the hypothesis `hσ` of `rearr_equivariant` can be met: `[1, 0]`, the swap of the two cells of two-cell arrays, for `n = 2` -/
example : ([1, 0] : List Nat).Perm (List.range 2) := by decide

end MPilot.C05
