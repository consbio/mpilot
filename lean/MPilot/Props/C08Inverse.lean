/-
C08 - "CvtFromFuzzy is its inverse between the thresholds", for whole fields at the level of `exec`.

`fromFuzzy_toFuzzy` (Props/C08.lean) is the law for one number.  `cvtFromFuzzy_inverts_exec`: converting a field with `CvtToFuzzy(TrueThreshold = t,
FalseThreshold = f)` and the result back with `CvtFromFuzzy(TrueThreshold = t, FalseThreshold = f)` returns the field - the same cells missing, the same
values elsewhere - whenever its present cells lie between the thresholds (either order of the thresholds).
-/
import MPilot.Props.C08

namespace MPilot.C08

/-- between the thresholds (in either order) the mapping is the straight line: the line is monotone and takes the values ±1 at the thresholds,
so no clamping happens -/
theorem toFuzzy_between' (t f x : Rat) (htf : t ≠ f) (h : (f ≤ x ∧ x ≤ t) ∨ (t ≤ x ∧ x ≤ f)) : toFuzzyVal t f x = lin t f 1 (-1) x := by
  have hf := lin_at_x2 t f 1 (-1) (sub_ne_zero.mpr htf.symm)
  have ht := lin_at_x1 t f 1 (-1)
  rcases lt_or_gt_of_ne htf with hlt | hgt
  · have hx := h.resolve_left fun h => (h.1.trans h.2).not_gt hlt
    exact clampHiLo_of_mem (hf.symm.trans_le (lin_anti (toFuzzy_slope_nonpos hlt) hx.2)) ((lin_anti (toFuzzy_slope_nonpos hlt) hx.1).trans_eq ht)
  · have hx := h.resolve_right fun h => (h.1.trans h.2).not_gt hgt
    exact clampHiLo_of_mem (hf.symm.trans_le (lin_mono (toFuzzy_slope_nonneg hgt) hx.1)) ((lin_mono (toFuzzy_slope_nonneg hgt) hx.2).trans_eq ht)

/-- the usual case: the true threshold is the larger one -/
theorem toFuzzy_between (t f x : Rat) (hft : f < t) (h1 : f ≤ x) (h2 : x ≤ t) : toFuzzyVal t f x = lin t f 1 (-1) x :=
  toFuzzy_between' t f x hft.ne' (Or.inl ⟨h1, h2⟩)

/-- **CvtFromFuzzy inverts CvtToFuzzy between the thresholds, for whole fields** -/
theorem cvtFromFuzzy_inverts_exec (sqrt : Rat → Rat) (a r1 r2 : Arr) (t f : Num) (hv : a.valid ≠ []) (htf : t.val ≠ f.val)
    (hbetween : ∀ c ∈ a.cells, c.mask = false → (f.val ≤ c.val ∧ c.val ≤ t.val) ∨ (t.val ≤ c.val ∧ c.val ≤ f.val))
    (h1 : exec sqrt (.cvtToFuzzy (some t) (some f) none) [a] = .ok r1)
    (h2 : exec sqrt (.cvtFromFuzzy t f) [r1] = .ok r2) : r2.vis = a.vis := by
  have s1 := cvtToFuzzy_spec sqrt a r1 t f hv htf h1
  have s2 := cvtFromFuzzy_spec sqrt r1 r2 t f htf h2
  -- both specifications in terms of `vis`: the second map after the first
  rw [s2, ← Arr.vis_map, s1, ← Arr.vis_map, List.map_map, Option.map_comp_map]
  exact Arr.vis_map_self fun c hc hm => by
    rw [Function.comp, toFuzzy_between' t.val f.val c.val htf (hbetween c hc hm), fromFuzzy_toFuzzy t.val f.val c.val htf]

end MPilot.C08
