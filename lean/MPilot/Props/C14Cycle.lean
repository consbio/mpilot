/-
C14 — the contrapositive of `no_cycle_ranked`, stated outright: a loop of references of any length, through any commands, is found.

`Refers p deps a b`: `a` is the result name of a command of the program, whose references (`deps a`: direct ones and those inside lists,
as collected by the pre-pass) include `b`, itself the result of a command.  A model is cyclic when some name reaches itself through
one or more such steps (`Relation.TransGen`): a self-reference, two commands naming each other, a loop of any length.
-/
import MPilot.Props.C14
import Mathlib.Logic.Relation

namespace MPilot.C14

variable {Val : Type}

/-- one reference between two commands of the program -/
def Refers (p : Program) (deps : String → List String) (a b : String) : Prop :=
  (∃ c ∈ p.cmds, c.resultName = a) ∧ b ∈ deps a ∧ (p.find? b).isSome = true

/-- **every loop is found**: if some name reaches itself through one or more references between commands, the check reports a cycle -/
theorem cycle_detected (p : Program) (deps : String → List String) (x : String) (h : Relation.TransGen (Refers p deps) x x) :
    hasCycle p deps = true := by
  by_contra hc
  have hf : hasCycle p deps = false := by simpa using hc
  obtain ⟨r, hr⟩ := no_cycle_ranked p deps hf
  have : ∀ a b, Relation.TransGen (Refers p deps) a b → r b < r a := by
    intro a b hab
    induction hab with
    | single h => obtain ⟨⟨c, hc, rfl⟩, hd, hk⟩ := h; exact hr c hc _ hd hk
    | tail _ h ih => obtain ⟨⟨c, hc, rfl⟩, hd, hk⟩ := h; exact Nat.lt_trans (hr c hc _ hd hk) ih
  exact Nat.lt_irrefl _ (this x x h)

/-- a command that refers to its own result -/
theorem self_reference_detected (p : Program) (deps : String → List String) (c : PCmd) (hc : c ∈ p.cmds)
    (hd : c.resultName ∈ deps c.resultName) (hk : (p.find? c.resultName).isSome = true) : hasCycle p deps = true :=
  cycle_detected p deps c.resultName (.single ⟨⟨c, hc, rfl⟩, hd, hk⟩)

/-- two commands that refer to each other -/
theorem mutual_reference_detected (p : Program) (deps : String → List String) (a b : PCmd) (ha : a ∈ p.cmds) (hb : b ∈ p.cmds)
    (hab : b.resultName ∈ deps a.resultName) (hba : a.resultName ∈ deps b.resultName)
    (ka : (p.find? a.resultName).isSome = true) (kb : (p.find? b.resultName).isSome = true) : hasCycle p deps = true :=
  cycle_detected p deps a.resultName (.tail (.single ⟨⟨a, ha, rfl⟩, hab, kb⟩) ⟨⟨b, hb, rfl⟩, hba, ka⟩)

/-- **a cyclic model is rejected and nothing runs**: whenever the pre-pass succeeds and the references it collected contain a loop,
`run` ends with the recursive-model error and the state (what was executed, what is memoised) is what it was -/
theorem cyclic_model_rejected (sem : Sem Val) (p : Program) (st : St Val)
    (info : List (String × List String × List String)) (hpre : prepass (mkCtx sem p st) p.cmds = .ok info)
    (x : String) (h : Relation.TransGen (Refers p (depsOf info)) x x) :
    run sem p st = (st, some (.mp "RecursiveModelStructure" none)) :=
  cycle_rejected_before_execution sem p st info hpre (cycle_detected p (depsOf info) x h)

/-- and conversely an accepted model has no loop -/
theorem accepted_has_no_loop (p : Program) (deps : String → List String) (h : hasCycle p deps = false) (x : String) :
    ¬ Relation.TransGen (Refers p deps) x x := fun hl => by
  rw [cycle_detected p deps x hl] at h; cases h

/-- non-vacuity: `A` refers to `B`, `B` (inside a list, say) to `C`, `C` back to `A`; `D` refers to `A` from outside the loop.  The loop is a
`TransGen` loop, and the check reports it -/
example :
    let c (n : String) : PCmd := ⟨n, default, [], none⟩
    let p : Program := ⟨[c "D", c "A", c "B", c "C"], none, fun _ => false⟩
    let deps : String → List String := fun n => if n == "A" then ["B"] else if n == "B" then ["C"] else if n == "C" then ["A"] else if n == "D" then ["A"] else []
    Relation.TransGen (Refers p deps) "A" "A" ∧ hasCycle p deps = true := by
  intro c p deps
  have hl : Relation.TransGen (Refers p deps) "A" "A" := by
    refine .tail (.tail (.single ⟨⟨c "A", by simp [p], rfl⟩, ?_, ?_⟩) ⟨⟨c "B", by simp [p], rfl⟩, ?_, ?_⟩) ⟨⟨c "C", by simp [p], rfl⟩, ?_, ?_⟩
    all_goals decide
  exact ⟨hl, cycle_detected p deps "A" hl⟩

end MPilot.C14
