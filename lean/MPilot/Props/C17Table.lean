/-
C17 — "Writing produces a header of the result names in the listed order and one row per cell".

`Model/Csv.csvWriteTable` is the table `EEMSWrite` assembles; `csv_table_roundtrip` (Props/C17.lean) says the reader's record splitter inverts the
writer's row format.  Together: the text written for results `names` with cells `cols` is read back as exactly the header `names` followed by one
record per cell, record `i` holding cell `i` of every result in the listed order - whatever the names and cell texts contain (commas, quotes,
line breaks).
-/
import MPilot.Props.C17

namespace MPilot.C17

theorem writeTable_chars (names : List String) (cols : List (List String)) :
    (csvWriteTable names cols).toList = (csvTableRows names cols).flatMap fun r => (csvWriteRow r).toList := by
  unfold csvWriteTable; simp

/-- **the written table reads back as the header and one record per cell** -/
theorem written_table_records (names : List String) (cols : List (List String)) :
    csvRows (csvWriteTable names cols).toList = csvTableRows names cols := by
  rw [writeTable_chars]; exact csv_table_roundtrip _

/-- one row per cell -/
theorem written_table_row_count (names : List String) (c : List String) (cols : List (List String)) :
    (csvTableRows names (c :: cols)).length = c.length + 1 := by
  simp [csvTableRows]

/-- record `i`, column `j` is cell `i` of result `j` -/
theorem written_table_cell (names : List String) (cols : List (List String)) (c0 : List String) (rest : List (List String)) (hc : cols = c0 :: rest)
    (i j : Nat) (hi : i < c0.length) (col : List String) (hj : cols[j]? = some col) :
    ((csvTableRows names cols)[i + 1]?).bind (·[j]?) = some (col.getD i "") := by
  subst hc
  simp only [csvTableRows, List.head?_cons, Option.map_some, Option.getD_some, List.getElem?_cons_succ, List.getElem?_map, List.getElem?_range hi,
    Option.map_some, Option.bind_some]
  rw [hj]; rfl

end MPilot.C17
