/-
C07 — "for integer and floating inputs in any combination": the element type of an arithmetic result (`arith_result_dtype`); and
Minimum ≤ Mean ≤ Maximum cell by cell for whole fields (`min_mean_max_exec`), which needs the cell theorems of Props/C07.lean.
-/
import MPilot.Props.C07
import MPilot.Lemmas.PlanProps

namespace MPilot.C07

/-- the promoted type of a list of fields is whole-numbered exactly when every field is -/
theorem promoteAll_int_iff (xs : List Arr) : promoteAll xs = .int ↔ ∀ x ∈ xs, x.dtype = .int := by
  unfold promoteAll
  have : ∀ d : DType, xs.foldl (fun d a => d.promote a.dtype) d = .int ↔ d = .int ∧ ∀ x ∈ xs, x.dtype = .int := by
    induction xs with
    | nil => intro d; simp
    | cons a rest ih => intro d; rw [List.foldl_cons, ih]; cases d <;> cases h : a.dtype <;> simp [DType.promote, h]
  simpa using this .int

theorem promoteAll_perm {xs xs' : List Arr} (h : xs.Perm xs') : promoteAll xs = promoteAll xs' := MPilot.promoteAll_perm h

/-- the element type the arithmetic commands return -/
def arithDtype : DataCmd → List Arr → Option DType
  | .copy, [a] => some a.dtype
  | .aMinusB, [a, b] => some (a.dtype.promote b.dtype)
  | .sum, xs | .multiply, xs | .minimum, xs | .maximum, xs => some (promoteAll xs)
  | .weightedSum w, xs => some (if numsAllInt w then promoteAll xs else .float)
  | .aDividedByB, _ | .mean, _ | .weightedMean _, _ => some .float
  | _, _ => none

/-- **the element type of an arithmetic result**: Sum, Multiply, Minimum, Maximum return the promoted type of their inputs, AMinusB that of its two
inputs, Copy its input's type; ADividedByB, Mean and WeightedMean always decimals; WeightedSum the promoted type when every weight is a whole
number and decimals otherwise (`arithDtype`) -/
theorem arith_result_dtype (sqrt : Rat → Rat) (c : DataCmd) (xs : List Arr) (r : Arr) (dt : DType)
    (hd : arithDtype c xs = some dt) (h : exec sqrt c xs = .ok r) : r.dtype = dt := by
  obtain ⟨q, hq, hr⟩ := exec_dtype h
  rw [hr]
  clear hr h
  -- `hd` and `hq` compute: the type `arithDtype` names is the type of the fold in `bodyPlan`
  cases c <;> first | cases hd | skip
  case copy => rcases xs with _ | ⟨a, _ | ⟨b, t⟩⟩ <;> cases hd; cases hq; rfl
  case aMinusB =>
    rcases xs with _ | ⟨a, _ | ⟨b, _ | ⟨b', t⟩⟩⟩ <;> cases hd
    cases hq
    rcases a with ⟨_ | _, _, _⟩ <;> rfl
  all_goals cases hq; rfl

/-- **Minimum ≤ Mean ≤ Maximum, cell by cell, for whole fields and any inputs**: the three results are missing in the same cells, and ordered elsewhere -/
theorem min_mean_max_exec (sqrt : Rat → Rat) (a : Arr) (t : List Arr) (rmin rmean rmax : Arr) (i : Nat)
    (hmin : exec sqrt .minimum (a :: t) = .ok rmin) (hmean : exec sqrt .mean (a :: t) = .ok rmean) (hmax : exec sqrt .maximum (a :: t) = .ok rmax)
    (hi : ∀ x ∈ a :: t, i < x.cells.length) :
    ∃ c1 c2 c3, rmin.cells[i]? = some c1 ∧ rmean.cells[i]? = some c2 ∧ rmax.cells[i]? = some c3 ∧ c1.mask = c2.mask ∧ c2.mask = c3.mask ∧
      (c1.mask = false → c1.val ≤ c2.val ∧ c2.val ≤ c3.val) := by
  dsimp only [exec] at hmin hmax
  refine CellAt.rel₃ (naryFold_cell _ _ a t rmin i hmin hi) (mean_cell sqrt a t rmean i hmean hi) (naryFold_cell _ _ a t rmax i hmax hi) fun _ => ?_
  rw [← column_vals_length (a :: t) i]
  exact mean_between _ (column_vals_ne_nil a t i) _ _ (fold1_min_le _) (fold1_max_ge _)

end MPilot.C07
