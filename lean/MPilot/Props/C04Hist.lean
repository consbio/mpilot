/-
C04 — over histories: a fuzzy result is inside [-1, 1] when it is made (`C04.fuzzy_range`) *and stays there*, whatever is executed
afterwards on the same live objects - including the single-input FuzzyOr / FuzzyAnd, which hand their input back and limit it in place.
Built on the heap-level history of `Props/C09Hist` (`runOps`, `Disc`, `FuzzyInv`).
-/
import MPilot.Props.C09Hist

namespace MPilot.C04
open MPilot.C09

theorem record_mono_step (sqrt : Rat → Rat) (s : HState) (op : Op) (id : ObjId) (h : id ∈ s.2) : id ∈ (stepOp sqrt s op).2 := by
  unfold stepOp
  split
  · dsimp only
    split
    · exact List.mem_cons_of_mem _ h
    · exact h
  · exact h

theorem record_mono (sqrt : Rat → Rat) : ∀ (ops : List Op) (s : HState) (id : ObjId), id ∈ s.2 → id ∈ (runOps sqrt ops s).2
  | [], _, _, h => h
  | op :: ops, s, id, h => record_mono sqrt ops (stepOp sqrt s op) id (record_mono_step sqrt s op id h)

/-- **a fuzzy result stays in range for the rest of the history.**  When a fuzzy-producing command succeeds, its result object is inside
[-1, 1] after *any* further executions - any commands, on any live objects (this one included), in any order, any number of times,
failing ones included - as long as FuzzyOr and FuzzyAnd are only given fields recorded as fuzzy (`Disc`, what parameter validation enforces). -/
theorem fuzzy_result_in_range_forever (sqrt : Rat → Rat) (s : HState) (op : Op) (after : List Op) (hinv : FuzzyInv s)
    (hd : Disc sqrt (op :: after) s) (rid : ObjId) (h' : Heap) (hx : execH sqrt op.cmd op.ids s.1 = .ok (rid, h'))
    (hf : op.cmd.isFuzzyProducer = true) :
    ∃ a, (runOps sqrt (op :: after) s).1[rid]? = some a ∧ InFuzzyRange a := by
  have hinv1 := (stepOp_ok sqrt s op hinv hd.1).2
  have hrec : rid ∈ (stepOp sqrt s op).2 := by
    unfold stepOp
    rw [hx]
    simp [hf]
  have hinv2 := (history_preserves sqrt after (stepOp sqrt s op) hinv1 hd.2).2
  exact hinv2 rid (record_mono sqrt after _ rid hrec)

/-- the whole record is truthful at every point of every history -/
theorem fuzzy_record_in_range (sqrt : Rat → Rat) (ops : List Op) (s : HState) (hinv : FuzzyInv s) (hd : Disc sqrt ops s) :
    ∀ id ∈ (runOps sqrt ops s).2, ∃ a, (runOps sqrt ops s).1[id]? = some a ∧ InFuzzyRange a :=
  (history_preserves sqrt ops s hinv hd).2

end MPilot.C04
