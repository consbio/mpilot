/-
C08 - an optional parameter left out behaves exactly like its documented default written out.

For every input, every other parameter and every `sqrt`:
* `normalize_defaults`: `Normalize` without StartVal / EndVal is `Normalize(StartVal = 0, EndVal = 1)`;
* `normalizeZScore_defaults`: `NormalizeZScore` without its four optional values is the one with TrueThresholdZScore 0, FalseThresholdZScore 1,
  StartVal 0, EndVal 1 (the values the code uses; the documentation's wording of the first two is the other way round - noted in DESIGN.md 5/C08);
* `cvtToFuzzyZScore_defaults`: `CvtToFuzzyZScore` without thresholds is the one with +1 / -1 (the model's `exec` is a function of the command
  and its inputs: it has no state in which the parameters of an earlier command could linger);
* `cvtToFuzzy_direction_default`: `CvtToFuzzy` without Direction is `CvtToFuzzy(Direction = LowToHigh)`, and an empty Direction too;
* for Normalize and CvtToFuzzyZScore each default can be given on one side only (`*_partial`);
* a defaulted threshold counts as a threshold: `cvtToFuzzy_equal_after_defaults` and its two instances - CvtToFuzzy refuses thresholds that
  coincide after the data's minimum and maximum have been filled in, as it refuses equal ones written out.
-/
import MPilot.Model.Eems

namespace MPilot.C08D

/-! An omitted parameter reaches the body as `numOr none d` (or as the `none` branch of the direction check), which is `d` by computation: once
the number of inputs is known, both sides of each statement below are the same term. -/

theorem normalize_defaults (sqrt : Rat → Rat) (xs : List Arr) :
    exec sqrt (.normalize none none) xs = exec sqrt (.normalize (some ⟨0, true⟩) (some ⟨1, true⟩)) xs := by
  rcases xs with _ | ⟨a, _ | _⟩ <;> rfl

theorem normalize_defaults_partial (sqrt : Rat → Rat) (xs : List Arr) (e s : Num) :
    exec sqrt (.normalize none (some e)) xs = exec sqrt (.normalize (some ⟨0, true⟩) (some e)) xs ∧
    exec sqrt (.normalize (some s) none) xs = exec sqrt (.normalize (some s) (some ⟨1, true⟩)) xs := by
  rcases xs with _ | ⟨a, _ | _⟩ <;> exact ⟨rfl, rfl⟩

theorem normalizeZScore_defaults (sqrt : Rat → Rat) (xs : List Arr) :
    exec sqrt (.normalizeZScore none none none none) xs =
      exec sqrt (.normalizeZScore (some ⟨0, true⟩) (some ⟨1, true⟩) (some ⟨0, true⟩) (some ⟨1, true⟩)) xs := by
  rcases xs with _ | ⟨a, _ | _⟩ <;> rfl

theorem cvtToFuzzyZScore_defaults (sqrt : Rat → Rat) (xs : List Arr) :
    exec sqrt (.cvtToFuzzyZScore none none) xs = exec sqrt (.cvtToFuzzyZScore (some ⟨1, true⟩) (some ⟨-1, true⟩)) xs := by
  rcases xs with _ | ⟨a, _ | _⟩ <;> rfl

theorem cvtToFuzzyZScore_defaults_partial (sqrt : Rat → Rat) (xs : List Arr) (t f : Num) :
    exec sqrt (.cvtToFuzzyZScore none (some f)) xs = exec sqrt (.cvtToFuzzyZScore (some ⟨1, true⟩) (some f)) xs ∧
    exec sqrt (.cvtToFuzzyZScore (some t) none) xs = exec sqrt (.cvtToFuzzyZScore (some t) (some ⟨-1, true⟩)) xs := by
  rcases xs with _ | ⟨a, _ | _⟩ <;> exact ⟨rfl, rfl⟩

theorem cvtToFuzzy_direction_default (sqrt : Rat → Rat) (tt ft : Option Num) (xs : List Arr) :
    exec sqrt (.cvtToFuzzy tt ft none) xs = exec sqrt (.cvtToFuzzy tt ft (some "LowToHigh")) xs ∧
    exec sqrt (.cvtToFuzzy tt ft (some "")) xs = exec sqrt (.cvtToFuzzy tt ft (some "LowToHigh")) xs := by
  rcases xs with _ | ⟨a, _ | _⟩ <;> exact ⟨rfl, rfl⟩

/-- **a defaulted threshold is a threshold**: whenever the thresholds `CvtToFuzzy` ends up with - given, or taken from the field's minimum and maximum
according to the direction - coincide, the command is refused with `InvalidThresholds`, exactly as for two equal thresholds written out; in particular
a field whose valid cells all hold one value cannot be converted without thresholds -/
theorem cvtToFuzzy_equal_after_defaults (a : Arr) (tt ft : Option Num) (h2l : Bool) (mn mx : Rat)
    (hmn : minL a.valid = some mn) (hmx : maxL a.valid = some mx)
    (heq : numOr tt (if h2l then mn else mx) = numOr ft (if h2l then mx else mn)) :
    exec.go a tt ft h2l = eMp "InvalidThresholds" .cmd := by
  unfold exec.go
  simp only [hmn, hmx]
  simp [heq]

theorem cvtToFuzzy_constant_field_rejected (a : Arr) (h2l : Bool) (v : Rat) (hmn : minL a.valid = some v) (hmx : maxL a.valid = some v) :
    exec.go a none none h2l = eMp "InvalidThresholds" .cmd :=
  cvtToFuzzy_equal_after_defaults a none none h2l v v hmn hmx (by cases h2l <;> simp [numOr])

/-- e.g. `TrueThreshold = 0` on data whose minimum is 0 (the false threshold defaults to the minimum) -/
theorem cvtToFuzzy_given_equals_default (a : Arr) (t : Num) (mn mx : Rat) (hmn : minL a.valid = some mn) (hmx : maxL a.valid = some mx) (ht : t.val = mn) :
    exec.go a (some t) none false = eMp "InvalidThresholds" .cmd :=
  cvtToFuzzy_equal_after_defaults a (some t) none false mn mx hmn hmx (by simp [numOr, ht])

end MPilot.C08D
