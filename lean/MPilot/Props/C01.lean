/-
C01 — every command executes exactly once, fed by its finished dependencies.

The run loop of the model (`runCmd`, `run`) is generic in the value type and in what `execute` computes (`Sem`).
Acyclicity is a premise here (a rank function on the read relation); C14 shows that `run` only evaluates programs whose
reference graph has one.

`runCmd_bigstep` reads the fuelled recursion as big-step rules, once.  `runCmd_reach` (the one induction over them) says that whatever
`Command.run` does to the state is a sequence of two kinds of events (`Reach`): a body is entered; a body returns and its command, not
finished before, is stored with the value its equation gives.  Every invariant of this file, of C01Hist / C01Edit and of C02 (`Sol`) is a
fact about these two events; only `Known` (C01Edit), which holds without acyclicity, is read off the rules directly.
-/
import MPilot.Lemmas.Load
import Mathlib.Data.List.Nodup

namespace MPilot.C01

variable {Val : Type}

def starts (log : List Ev) : List String := log.filterMap fun e => match e with | .start c => some c | _ => none
def finishes (log : List Ev) : List String := log.filterMap fun e => match e with | .finish c => some c | _ => none
def names (st : St Val) : List String := st.memo.map (·.1)

/-! the only two ways `runCmd` changes the state -/

/-- the body of `n` is entered -/
def enter (s : St Val) (n : String) : St Val := { s with log := s.log ++ [.start n] }
/-- the body of `n` returns `v`: stored and logged -/
def leave (s : St Val) (n : String) (v : Val) : St Val := { memo := s.memo ++ [(n, v)], log := s.log ++ [.finish n] }

theorem starts_append (a b : List Ev) : starts (a ++ b) = starts a ++ starts b := List.filterMap_append
theorem finishes_append (a b : List Ev) : finishes (a ++ b) = finishes a ++ finishes b := List.filterMap_append
theorem names_enter (s : St Val) (n : String) : names (enter s n) = names s := rfl
theorem names_leave (s : St Val) (n : String) (v : Val) : names (leave s n v) = names s ++ [n] := by simp [names, leave]
theorem starts_enter (s : St Val) (n : String) : starts (enter s n).log = starts s.log ++ [n] := starts_append _ _
theorem starts_leave (s : St Val) (n : String) (v : Val) : starts (leave s n v).log = starts s.log :=
  (starts_append _ _).trans (List.append_nil _)
theorem finishes_enter (s : St Val) (n : String) : finishes (enter s n).log = finishes s.log :=
  (finishes_append _ _).trans (List.append_nil _)
theorem finishes_leave (s : St Val) (n : String) (v : Val) : finishes (leave s n v).log = finishes s.log ++ [n] :=
  finishes_append _ _
attribute [simp] starts_append finishes_append names_enter names_leave starts_enter starts_leave finishes_enter finishes_leave

theorem get?_isSome_iff (st : St Val) (n : String) : (st.get? n).isSome = true ↔ n ∈ names st := by
  simp [St.get?, names]

theorem get?_some_of_mem (st : St Val) (n : String) (h : n ∈ names st) : ∃ v, st.get? n = some v :=
  Option.isSome_iff_exists.mp ((get?_isSome_iff st n).mpr h)

theorem mem_names_of_get? {st : St Val} {n : String} {v : Val} (h : st.get? n = some v) : n ∈ names st :=
  (get?_isSome_iff st n).mp (by simp [h])

theorem get?_leave (s : St Val) (n d : String) (v : Val) :
    (leave s n v).get? d = (s.get? d).or (if n = d then some v else none) := by
  simp only [St.get?, leave, List.find?_append, Option.map_or]
  congr 1
  by_cases h : n = d <;> simp [h]

/-! ### `runCmd` and `run` as rules -/

section
variable (sem : Sem Val) (p : Program)

/-- **`Command.run` in big steps.**  `Q st n st' oe` holds of every call `runCmd … st n = (st', oe)` and `P ds s acc s' res` of every
reading loop, if they hold of the ways these can end: the result is memoised; the call is refused before the body is entered (no fuel,
unknown name, rejected argument); the body is entered and the reads or the computation fail; it is entered and returns.  Which error
a failing call ends with is not recorded: no invariant depends on it (C13 looks at the errors, and needs no induction). -/
theorem runCmd_bigstep {Q : St Val → String → St Val → Option PErr → Prop}
    {P : List String → St Val → List Val → St Val → Except PErr (List Val) → Prop}
    (nil : ∀ s acc, P [] s acc s (.ok acc.reverse))
    (fail : ∀ d ds s acc s' oe e, Q s d s' oe → P (d :: ds) s acc s' (.error e))
    (cons : ∀ d ds s acc s' v s'' res, Q s d s' none → s'.get? d = some v → P ds s' (v :: acc) s'' res → P (d :: ds) s acc s'' res)
    (memo : ∀ st n, n ∈ names st → Q st n st none)
    (refuse : ∀ st n e, Q st n st (some e))
    (abort : ∀ st n c s2 res e, n ∉ names st → p.find? n = some c → P (sem.pulls c) (enter st n) [] s2 res → Q st n s2 (some e))
    (done : ∀ st n c s2 vals v, n ∉ names st → p.find? n = some c → P (sem.pulls c) (enter st n) [] s2 (.ok vals) →
      sem.compute c vals = .ok v → Q st n (leave s2 n v) none)
    (fuel : Nat) (st : St Val) (n : String) {st' : St Val} {oe : Option PErr} (h' : runCmd sem p fuel st n = (st', oe)) : Q st n st' oe := by
  suffices Q st n (runCmd sem p fuel st n).1 (runCmd sem p fuel st n).2 by rwa [h'] at this
  clear h'
  induction fuel, st, n using runCmd.induct_unfolding (sem := sem) (p := p)
    (motive1 := fun _ ds s acc res => P ds s acc res.1 res.2)
  -- cases 1-4, the reading loop: nothing left to read; a read fails; a read succeeds and nothing is stored under its name; a read succeeds and the loop goes on.
  -- cases 5-11, `runCmd`: no fuel; stored before; unknown name; a rejected argument; the reads fail; the computation fails; it returns.
  -- `h`, `hp` say what the inner call returned
  case case1 => exact nil _ _
  case case2 h ih => exact fail _ _ _ _ _ _ _ (h ▸ ih :)
  case case3 h _ ih => exact fail _ _ _ _ _ _ _ (h ▸ ih :)
  case case4 h v hg ih ihp => exact cons _ _ _ _ _ _ _ _ (h ▸ ih :) hg ihp
  case case5 => exact refuse _ _ _
  case case6 h => exact memo _ _ ((get?_isSome_iff _ _).mp h)
  case case7 => exact refuse _ _ _
  case case8 => exact refuse _ _ _
  case case9 h c hf _ _ s2 e hp ih => exact abort _ _ c _ _ _ (mt (get?_isSome_iff _ _).mpr h) hf (hp ▸ ih :)
  case case10 h c hf _ _ s2 vals hp e _ ih => exact abort _ _ c _ _ _ (mt (get?_isSome_iff _ _).mpr h) hf (hp ▸ ih :)
  case case11 h c hf _ _ s2 vals hp v hc ih => exact done _ _ c _ _ _ (mt (get?_isSome_iff _ _).mpr h) hf (hp ▸ ih :) hc

theorem run_cases (st : St Val) :
    (∃ e, run sem p st = (st, some e)) ∨
    ∃ info, prepass (mkCtx sem p st) p.cmds = .ok info ∧ hasCycle p (depsOf info) = false ∧ run sem p st = run.go sem p (leavesOf p info) st :=
  (run_outcome sem p st).elim (fun ⟨e, _, h⟩ => .inl ⟨e, h⟩) (.imp (fun ⟨_, _, _, h⟩ => ⟨_, h⟩) id)

theorem run_inv {I : St Val → Prop} (hI : ∀ st n, I st → I (runCmd sem p (p.cmds.length + 1) st n).1) (st : St Val) (h : I st) :
    I (run sem p st).1 := by
  rcases run_cases sem p st with ⟨e, he⟩ | ⟨info, -, -, hgo⟩
  · exact he ▸ h
  · rw [hgo]; clear hgo
    fun_induction run.go sem p (leavesOf p info) st with
    | case1 s => exact h
    | case2 c rest s s' e he => have h1 := hI s c.resultName h; rwa [he] at h1
    | case3 c rest s s' he ih => have h1 := hI s c.resultName h; rw [he] at h1; exact ih h1

end

/-! ### the invariants -/

/-- the failure-proof part of the invariant -/
structure FInv (sem : Sem Val) (p : Program) (st : St Val) : Prop where
  nodup : (names st).Nodup
  fin : finishes st.log = names st
  ordered : ∀ pre n post, names st = pre ++ n :: post → ∀ c, p.find? n = some c → ∀ d ∈ sem.pulls c, d ∈ pre

/-- the invariant of the evaluation, with `O` = commands whose `execute` has been entered but has not returned yet -/
structure InvO (sem : Sem Val) (p : Program) (O : List String) (st : St Val) : Prop where
  nodup : (names st).Nodup
  fin : finishes st.log = names st
  bal : (starts st.log).Perm (finishes st.log ++ O)
  ordered : ∀ pre n post, names st = pre ++ n :: post → ∀ c, p.find? n = some c → ∀ d ∈ sem.pulls c, d ∈ pre

theorem InvO.finv {sem : Sem Val} {p O st} (h : InvO sem p O st) : FInv sem p st := ⟨h.nodup, h.fin, h.ordered⟩

/-- one evaluation step, whatever its outcome: invariant kept, log and memo only extended, nothing of rank ≥ `bound` finished -/
structure Ext (sem : Sem Val) (p : Program) (r : String → Nat) (bound : Nat) (st st' : St Val) : Prop where
  inv : FInv sem p st'
  logExt : ∃ ext, st'.log = st.log ++ ext
  memoExt : ∃ m, st'.memo = st.memo ++ m ∧ ∀ x ∈ m.map (·.1), r x < bound

/-- what one successful evaluation step guarantees -/
structure Step (sem : Sem Val) (p : Program) (r : String → Nat) (O : List String) (bound : Nat) (st st' : St Val) : Prop where
  inv : InvO sem p O st'
  logExt : ∃ ext, st'.log = st.log ++ ext
  memoExt : ∃ m, st'.memo = st.memo ++ m ∧ ∀ x ∈ m.map (·.1), r x < bound

/-- the log is balanced up to the open bodies `O` -/
abbrev Bal (O : List String) (st : St Val) : Prop := (starts st.log).Perm (finishes st.log ++ O)

theorem FInv.invO {sem : Sem Val} {p O} {s : St Val} (h : FInv sem p s) (hb : Bal O s) : InvO sem p O s :=
  ⟨h.nodup, h.fin, hb, h.ordered⟩

theorem Bal.enter {O : List String} {st : St Val} (h : Bal O st) (n : String) : Bal (n :: O) (enter st n) := by
  simpa [Bal] using (h.append_right [n]).trans (by rw [List.append_assoc]; exact (List.perm_append_comm).append_left _)

theorem Bal.leave {O : List String} {st : St Val} {n : String} (h : Bal (n :: O) st) (v : Val) : Bal O (leave st n v) := by
  simpa [Bal] using h

/-! ### what a run does to the state -/

section
variable (sem : Sem Val) (p : Program)

/-- `Reach sem p A s s'`: `s'` arises from `s` by entering bodies and by storing results - each for a command of `A` that has none yet, all
of whose reads are stored, and with the value `compute` gives on them -/
inductive Reach (A : String → Prop) : St Val → St Val → Prop
  | refl {s} : Reach A s s
  | enter {s s'} (n) : Reach A s s' → Reach A s (enter s' n)
  | leave {s s' n c vals v} : Reach A s s' → A n → n ∉ names s' → p.find? n = some c →
      List.Forall₂ (fun d x => s'.get? d = some x) (sem.pulls c) vals → sem.compute c vals = .ok v → Reach A s (leave s' n v)

variable {sem p} {A B : String → Prop} {s s' s'' : St Val}

theorem Reach.trans (h : Reach sem p A s s') (h' : Reach sem p A s' s'') : Reach sem p A s s'' := by
  induction h' with
  | refl => exact h
  | enter n _ ih => exact ih.enter n
  | leave _ ha hn hc hf hv ih => exact ih.leave ha hn hc hf hv

theorem Reach.mono (hAB : ∀ x, A x → B x) (h : Reach sem p A s s') : Reach sem p B s s' := by
  induction h with
  | refl => exact .refl
  | enter n _ ih => exact ih.enter n
  | leave _ ha hn hc hf hv ih => exact ih.leave (hAB _ ha) hn hc hf hv

theorem Reach.grows (h : Reach sem p A s s') :
    (∃ ext, s'.log = s.log ++ ext) ∧ ∃ m, s'.memo = s.memo ++ m ∧ ∀ x ∈ m.map (·.1), A x := by
  induction h with
  | refl => exact ⟨⟨[], by simp⟩, [], by simp⟩
  | enter n _ ih =>
    obtain ⟨⟨e, he⟩, m, hm, hA⟩ := ih
    exact ⟨⟨e ++ [.start n], by simp [C01.enter, he]⟩, m, hm, hA⟩
  | @leave _ n _ _ v _ ha _ _ _ _ ih =>
    obtain ⟨⟨e, he⟩, m, hm, hA⟩ := ih
    refine ⟨⟨e ++ [.finish n], by simp [C01.leave, he]⟩, m ++ [(n, v)], by simp [C01.leave, hm], ?_⟩
    rw [List.map_append]
    exact List.forall_mem_append.mpr ⟨hA, by simpa using ha⟩

theorem Reach.names_mono (h : Reach sem p A s s') {x : String} (hx : x ∈ names s) : x ∈ names s' := by
  obtain ⟨-, m, hm, -⟩ := h.grows
  simp only [names, hm, List.map_append, List.mem_append]; exact .inl hx

theorem Reach.fresh (h : Reach sem p A s s') {x : String} (hx : x ∉ names s) (hA : ¬ A x) : x ∉ names s' := by
  obtain ⟨-, m, hm, hm'⟩ := h.grows
  simp only [names, hm, List.map_append, List.mem_append, not_or]
  exact ⟨hx, fun h => hA (hm' x h)⟩

theorem Reach.get?_some (h : Reach sem p A s s') {d : String} {x : Val} (hx : s.get? d = some x) : s'.get? d = some x := by
  induction h with
  | refl => exact hx
  | enter n _ ih => exact ih
  | leave _ _ _ _ _ _ ih => rw [get?_leave, ih]; rfl

theorem Reach.finv (h : Reach sem p A s s') (hs : FInv sem p s) : FInv sem p s' := by
  induction h with
  | refl => exact hs
  | enter n _ ih => exact ⟨ih.nodup, by simpa using ih.fin, ih.ordered⟩
  | @leave s2 n c _ v _ _ hn hc hf _ ih =>
    refine ⟨?_, by simp [ih.fin], ?_⟩
    · rw [names_leave, ← List.concat_eq_append]; exact ih.nodup.concat hn
    · -- `n` is last: its reads are stored; whatever stands earlier stood there before
      intro pre x post hsplit cx hcx d hd
      rw [names_leave] at hsplit
      rcases List.eq_nil_or_concat post with rfl | ⟨post', y, rfl⟩
      · obtain ⟨rfl, hx⟩ := List.append_inj' hsplit rfl
        cases hx; cases hc.symm.trans hcx
        exact ((List.forall₂_and_left _ _).mp (hf.imp fun _ _ h => ⟨mem_names_of_get? h, h⟩)).1 d hd
      · rw [List.concat_eq_append, ← List.cons_append, ← List.append_assoc] at hsplit
        exact ih.ordered pre x post' (List.append_inj' hsplit rfl).1 cx hcx d hd

end

section
variable (sem : Sem Val) (p : Program) (r : String → Nat)

/-- acyclicity of the read relation, as a rank function -/
def Ranked : Prop := ∀ n c, p.find? n = some c → ∀ d ∈ sem.pulls c, r d < r n

variable {sem p r}

theorem Ranked.of_mem (h : ∀ c ∈ p.cmds, ∀ d ∈ sem.pulls c, r d < r c.resultName) : Ranked sem p r := fun n c hc d hd => by
  have hc : p.cmds.find? (·.resultName == n) = some c := hc
  have hn := List.find?_some hc
  exact beq_iff_eq.mp hn ▸ h c (List.mem_of_find?_eq_some hc) d hd

/-- **core of C01**: whatever a `Command.run` of `n` does in an acyclic program - finish or fail - consists of legal events for commands of rank
at most that of `n`; if it succeeds `n` is finished and every body entered has returned -/
theorem runCmd_reach (hr : Ranked sem p r) {fuel : Nat} {st st' : St Val} {n : String} {oe : Option PErr}
    (h : runCmd sem p fuel st n = (st', oe)) :
    Reach sem p (r · < r n + 1) st st' ∧ (oe = none → n ∈ names st' ∧ ∀ O, Bal O st → Bal O st') := by
  -- ranks are bounded strictly, `r · < b`, so that one form serves the reads of `n` (`b = r n`) and `n` itself (`b = r n + 1`); it is the `bound`
  -- of `Ext` and `Step`
  refine runCmd_bigstep sem p
    (Q := fun st n st' oe => Reach sem p (r · < r n + 1) st st' ∧ (oe = none → n ∈ names st' ∧ ∀ O, Bal O st → Bal O st'))
    (P := fun ds s acc s' res => ∀ b, (∀ d ∈ ds, r d < b) → Reach sem p (r · < b) s s' ∧ ∀ vals, res = .ok vals →
      (∃ vs, vals = acc.reverse ++ vs ∧ List.Forall₂ (fun d x => s'.get? d = some x) ds vs) ∧ ∀ O, Bal O s → Bal O s')
    ?nil ?fail ?cons ?memo ?refuse ?abort ?done fuel st n h
  case nil => exact fun s acc b _ => ⟨.refl, fun vals hv => ⟨⟨[], by simpa using hv.symm, .nil⟩, fun _ => id⟩⟩
  case fail =>
    exact fun d ds s acc s' oe e hq b hb => ⟨hq.1.mono fun _ hx => Nat.lt_of_lt_of_le hx (hb d List.mem_cons_self), fun _ hv => nomatch hv⟩
  case cons =>
    intro d ds s acc s' v s'' res hq hg hp b hb
    obtain ⟨h2, hs⟩ := hp b fun x hx => hb x (List.mem_cons_of_mem _ hx)
    refine ⟨(hq.1.mono fun _ hx => Nat.lt_of_lt_of_le hx (hb d List.mem_cons_self)).trans h2, fun vals hv => ?_⟩
    obtain ⟨⟨vs, rfl, hf⟩, hbal⟩ := hs vals hv
    exact ⟨⟨v :: vs, by simp, .cons (h2.get?_some hg) hf⟩, fun O hO => hbal O ((hq.2 rfl).2 O hO)⟩
  case memo => exact fun st n hn => ⟨.refl, fun _ => ⟨hn, fun _ => id⟩⟩
  case refuse => exact fun st n e => ⟨.refl, fun hv => nomatch hv⟩
  case abort =>
    exact fun st n c s2 res e _ hc hp => ⟨(Reach.refl.enter n).trans ((hp (r n) (hr n c hc)).1.mono fun _ => Nat.lt_succ_of_lt), fun hv => nomatch hv⟩
  case done =>
    intro st n c s2 vals v hn hc hp hv
    obtain ⟨h2, hs⟩ := hp (r n) (hr n c hc)
    obtain ⟨⟨vs, rfl, hf⟩, hbal⟩ := hs vals rfl
    -- nothing of the rank of `n` finished while its body was open, so `n` itself did not
    have hfresh : n ∉ names s2 := h2.fresh hn (Nat.lt_irrefl _)
    exact ⟨(((Reach.refl.enter n).trans h2).mono fun _ => Nat.lt_succ_of_lt).leave (Nat.lt_succ_self _) hfresh hc hf hv,
      fun _ => ⟨by simp, fun O hO => (hbal _ (hO.enter n)).leave v⟩⟩

theorem go_reach (hr : Ranked sem p r) (leaves : List PCmd) {st st' : St Val} {oe : Option PErr} (h : run.go sem p leaves st = (st', oe)) :
    Reach sem p (fun _ => True) st st' ∧ (oe = none → (∀ l ∈ leaves, l.resultName ∈ names st') ∧ ∀ O, Bal O st → Bal O st') := by
  fun_induction run.go sem p leaves st with
  | case1 s => cases h; exact ⟨.refl, fun _ => ⟨by simp, fun _ => id⟩⟩
  | case2 c rest s s1 e he => cases h; exact ⟨(runCmd_reach hr he).1.mono fun _ _ => trivial, fun hv => nomatch hv⟩
  | case3 c rest s s1 he ih =>
    obtain ⟨h1, hs1⟩ := runCmd_reach hr he
    obtain ⟨h2, hs2⟩ := ih h
    exact ⟨(h1.mono fun _ _ => trivial).trans h2, fun hv =>
      ⟨List.forall_mem_cons.mpr ⟨h2.names_mono (hs1 rfl).1, (hs2 hv).1⟩, fun O hO => (hs2 hv).2 O ((hs1 rfl).2 O hO)⟩⟩

/-- `Program.run`: if it succeeds, the leaves found by the pre-pass are finished and every body entered has returned -/
theorem run_reach (hr : Ranked sem p r) {st st' : St Val} {oe : Option PErr} (h : run sem p st = (st', oe)) :
    Reach sem p (fun _ => True) st st' ∧ (oe = none → (∀ O, Bal O st → Bal O st') ∧
      ∃ info, prepass (mkCtx sem p st) p.cmds = .ok info ∧ ∀ l ∈ leavesOf p info, l.resultName ∈ names st') := by
  rcases run_cases sem p st with ⟨e, he⟩ | ⟨info, hpre, -, hgo⟩
  · cases he.symm.trans h; exact ⟨.refl, fun hv => nomatch hv⟩
  · obtain ⟨h1, hs⟩ := go_reach hr _ (hgo ▸ h)
    exact ⟨h1, fun hv => ⟨(hs hv).2, info, hpre, (hs hv).1⟩⟩

end

/-! ### successful runs -/

section
variable (sem : Sem Val) (p : Program) (r : String → Nat)

/-- **C01 for one successful read** (`runCmd_reach`, read for a run that succeeds): a successful `Command.run` of `n` (in an acyclic program) preserves the invariant, finishes `n`,
only extends log and memo, and executes nothing of higher rank than `n` -/
theorem runCmd_ok (hr : Ranked sem p r) :
    ∀ (fuel : Nat) (O : List String) (st : St Val) (n : String) (st' : St Val), InvO sem p O st →
      runCmd sem p fuel st n = (st', none) → Step sem p r O (r n + 1) st st' ∧ n ∈ names st' := by
  intro fuel O st n st' hinv h
  obtain ⟨h1, hs⟩ := runCmd_reach hr h
  exact ⟨⟨(h1.finv hinv.finv).invO ((hs rfl).2 O hinv.bal), h1.grows.1, h1.grows.2⟩, (hs rfl).1⟩

theorem once_of_inv {st : St Val} (h : InvO sem p [] st) :
    (starts st.log).Nodup ∧ (finishes st.log).Nodup ∧ ∀ n, n ∈ names st → (starts st.log).count n = 1 ∧ (finishes st.log).count n = 1 := by
  have hbal : (starts st.log).Perm (finishes st.log) := by simpa using h.bal
  have hfn : (finishes st.log).Nodup := by rw [h.fin]; exact h.nodup
  have hsn : (starts st.log).Nodup := hbal.nodup_iff.mpr hfn
  refine ⟨hsn, hfn, fun n hn => ?_⟩
  have hf : n ∈ finishes st.log := by rw [h.fin]; exact hn
  have hs : n ∈ starts st.log := hbal.mem_iff.mpr hf
  exact ⟨List.count_eq_one_of_mem hsn hs, List.count_eq_one_of_mem hfn hf⟩

theorem finv_init : FInv sem p ({ memo := [], log := [] } : St Val) :=
  ⟨by simp [names], by simp [finishes, names], by intro pre n post h; simp [names] at h⟩

theorem inv_init : InvO sem p [] ({ memo := [], log := [] } : St Val) :=
  (finv_init sem p).invO (by simp [Bal, starts, finishes])

/-- **C01 (at most once, dependencies first, memoised).**  Whenever `Program.run` succeeds on an acyclic program, starting from any
state reached by earlier successful runs/result reads: no command's body has been entered twice, every finished command
entered its body exactly once, every finished command's inputs finished before it, and the log only grew. -/
theorem run_ok (hr : Ranked sem p r) (st st' : St Val) (hinv : InvO sem p [] st) (h : run sem p st = (st', none)) :
    InvO sem p [] st' ∧ (∃ ext, st'.log = st.log ++ ext) := by
  obtain ⟨h1, hs⟩ := run_reach hr h
  exact ⟨(h1.finv hinv.finv).invO ((hs rfl).1 _ hinv.bal), h1.grows.1⟩

/-- a result read (`Command.result`) after which the command is finished; same guarantees -/
theorem result_ok (hr : Ranked sem p r) (fuel : Nat) (st st' : St Val) (n : String) (hinv : InvO sem p [] st)
    (h : runCmd sem p fuel st n = (st', none)) : InvO sem p [] st' ∧ n ∈ names st' ∧ (∃ ext, st'.log = st.log ++ ext) := by
  obtain ⟨step, hmem⟩ := runCmd_ok sem p r hr fuel [] st n st' hinv h
  exact ⟨step.inv, hmem, step.logExt⟩

/-- **reading a finished result executes nothing**: the state does not change at all -/
theorem result_memoised (fuel : Nat) (st : St Val) (n : String) (h : n ∈ names st) :
    runCmd sem p (fuel + 1) st n = (st, none) := by
  rw [runCmd, if_pos ((get?_isSome_iff st n).mpr h)]

theorem go_memoised (leaves : List PCmd) (st : St Val) (hall : ∀ l ∈ leaves, l.resultName ∈ names st) :
    run.go sem p leaves st = (st, none) := by
  induction leaves with
  | nil => rfl
  | cons c rest ih =>
    rw [run.go, result_memoised sem p _ st _ (hall c List.mem_cons_self)]
    exact ih fun l hl => hall l (List.mem_cons_of_mem _ hl)

/-- **running the program again executes nothing further**: once every command is finished, `run` leaves log and memo as they are
(whether its pre-pass succeeds or not) -/
theorem run_idempotent (st : St Val) (hall : ∀ c ∈ p.cmds, c.resultName ∈ names st) : (run sem p st).1 = st := by
  rcases run_cases sem p st with ⟨e, he⟩ | ⟨info, -, -, hgo⟩
  · rw [he]
  · rw [hgo, go_memoised sem p (leavesOf p info) st fun l hl => hall l (List.mem_filter.mp hl).1]

/-- dependencies are finished first: in the order of finishing, everything a command reads precedes it -/
theorem deps_first {st : St Val} (h : InvO sem p [] st) (pre : List String) (n : String) (post : List String)
    (hs : finishes st.log = pre ++ n :: post) (c : PCmd) (hc : p.find? n = some c) : ∀ d ∈ sem.pulls c, d ∈ pre :=
  h.ordered pre n post (by rw [← h.fin]; exact hs) c hc

theorem FInv.closed {sem : Sem Val} {p} {st : St Val} (h : FInv sem p st) {n : String} {c : PCmd} (hn : n ∈ names st)
    (hc : p.find? n = some c) : ∀ d ∈ sem.pulls c, d ∈ names st := by
  obtain ⟨pre, post, hsplit⟩ := List.append_of_mem hn
  exact fun d hd => hsplit ▸ List.mem_append_left _ (h.ordered pre n post hsplit c hc d hd)

/-- **C01 (at least once).**  If `run` succeeds on an acyclic program with distinct result names, *every* command has finished —
provided every command that is directly referenced is read by the body of its consumer (`hcover`: the one fact about command bodies
this needs; checked for every built-in by the correspondence, which logs each result read). -/
theorem run_executes_all (hr : Ranked sem p r) (st st' : St Val) (hinv : InvO sem p [] st)
    (hnd : ∀ c ∈ p.cmds, p.find? c.resultName = some c)
    (hcover : ∀ info, prepass (mkCtx sem p st) p.cmds = .ok info → ∀ c ∈ p.cmds,
        (directOf info).contains c.resultName = true → ∃ c' ∈ p.cmds, c.resultName ∈ sem.pulls c')
    (h : run sem p st = (st', none)) : ∀ c ∈ p.cmds, c.resultName ∈ names st' := by
  obtain ⟨hreach, hs⟩ := run_reach hr h
  obtain ⟨-, info, hpre, hleaves⟩ := hs rfl
  obtain ⟨M, hM⟩ : ∃ M, ∀ c ∈ p.cmds, r c.resultName ≤ M :=
    ⟨_, fun c hc => List.le_max?_getD_of_mem (k := 0) (List.mem_map_of_mem (f := fun c => r c.resultName) hc)⟩
  -- a command that is not a leaf is read by a command of higher rank, which finishes only after its reads: induction on the distance
  -- from the highest rank
  intro c hc
  induction hk : M - r c.resultName using Nat.strongRecOn generalizing c with
  | _ k ih =>
    by_cases hl : (directOf info).contains c.resultName = true
    · obtain ⟨c', hc', hpull⟩ := hcover info hpre c hc hl
      have h1 := hr c'.resultName c' (hnd c' hc') c.resultName hpull
      have h2 := hM c' hc'
      exact (hreach.finv hinv.finv).closed (ih _ (by omega) c' hc' rfl) (hnd c' hc') _ hpull
    · exact hleaves c (List.mem_filter.mpr ⟨hc, by simpa using hl⟩)

/-- **C01, assembled**: after a successful `run` from the initial state, every command of an acyclic program was executed exactly once -/
theorem run_executes_each_exactly_once (hr : Ranked sem p r) (st' : St Val)
    (hnd : ∀ c ∈ p.cmds, p.find? c.resultName = some c)
    (hcover : ∀ info, prepass (mkCtx sem p ({ memo := [], log := [] } : St Val)) p.cmds = .ok info → ∀ c ∈ p.cmds,
        (directOf info).contains c.resultName = true → ∃ c' ∈ p.cmds, c.resultName ∈ sem.pulls c')
    (h : run sem p { memo := [], log := [] } = (st', none)) :
    ∀ c ∈ p.cmds, (starts st'.log).count c.resultName = 1 ∧ (finishes st'.log).count c.resultName = 1 := by
  have hall := run_executes_all sem p r hr _ st' (inv_init sem p) hnd hcover h
  have hinv := (run_ok sem p r hr _ st' (inv_init sem p) h).1
  intro c hc
  exact (once_of_inv sem p hinv).2.2 c.resultName (hall c hc)

end

end MPilot.C01
