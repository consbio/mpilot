/-
C20 — parameter cleaning is typed, pure and idempotent.

Determinism is definitional in a functional model.  Purity (no mutation of the raw argument or of the program) cannot be a
theorem about a pure model: it is established by the correspondence/oracles only (snapshot comparison) — stated as such.
-/
import MPilot.Lemmas.Clean
import MPilot.Props.C20Path

namespace MPilot.C20

/-- the parameter errors: `MPilotError`s, but for the last, which is no class of the code.  `OutsideModel` marks raw values whose cleaning the model does not describe
(text form of floats and containers, inf/nan, foreign Command objects); the correspondence skips and counts them. -/
def IsParamErr (e : CleanErr) : Prop :=
  e = "ParameterNotValid" ∨ e = "PathDoesNotExist" ∨ e = "InvalidRelativePath" ∨ e = "ResultDoesNotExist" ∨
  e = "ResultTypeNotValid" ∨ e = "ResultNotFuzzy" ∨ e = "ResultIsFuzzy" ∨ e = "OutsideModel"

/-- the documented type of a cleaned value -/
def HasType : PSpec → Clean → Prop
  | .any, .raw _ => True
  | .str, .str _ => True
  | .num, .int _ => True
  | .num, .float _ => True
  | .num, .bool _ => True          -- Python: `bool` is a `Number`
  | .bool, .bool _ => True
  | .path _, .str _ => True
  | .result _ _, .cmd _ => True
  | .list item, .list xs => ∀ x ∈ xs, HasType item x
  | .tuple, .dict _ => True
  | .dtype types, .pytype t => types.any (·.2 == t) = true
  | _, _ => False

macro "perr" : tactic => `(tactic| (unfold IsParamErr; simp))

/-- split every branch of `h : … = .error e`; `ok = error` branches are absurd, `error c = error e` branches name a parameter error -/
macro "err_cases" h:ident : tactic => `(tactic| (
  repeat' (first | split at $h:ident | (dsimp only at $h:ident))
  all_goals first
    | (injection $h:ident with hh; subst hh; perr)
    | (injection $h:ident)))

/-- split every branch of `h : … = .ok w`; `error = ok` branches are absurd; in the others `w` is substituted and `tac` runs -/
macro "okc" h:ident " => " tac:tacticSeq : tactic => `(tactic| (
  repeat' (first | split at $h:ident | (dsimp only at $h:ident))
  all_goals first
    | (injection $h:ident with hh; subst hh; ($tac))
    | (injection $h:ident)))

section
variable (ctx : Ctx)

theorem clean_result_cmd (ot : Option PClass) (fz : Option Bool) (n : String) :
    clean ctx (.result ot fz) (.cmd n) = .ok (.cmd n) ∨ ∃ e, clean ctx (.result ot fz) (.cmd n) = .error e ∧ IsParamErr e := by
  generalize h : clean ctx (.result ot fz) (.cmd n) = r
  unfold clean at h
  dsimp only at h
  repeat' split at h
  all_goals subst h; first | exact .inl rfl | exact .inr ⟨_, rfl, by perr⟩

theorem clean_result (ot : Option PClass) (fz : Option Bool) (v : Raw) :
    (∃ n, clean ctx (.result ot fz) v = .ok (.cmd n) ∧ clean ctx (.result ot fz) (.cmd n) = .ok (.cmd n)) ∨
      ∃ e, clean ctx (.result ot fz) v = .error e ∧ IsParamErr e := by
  cases v with
  | str s =>
    rw [clean_result_str]
    split
    · exact (clean_result_cmd ctx ot fz s).imp_left fun h => ⟨s, h, h⟩
    · exact .inr ⟨_, rfl, by perr⟩
  | cmd n => exact (clean_result_cmd ctx ot fz n).imp_left fun h => ⟨n, h, h⟩
  | _ => exact .inr ⟨_, by unfold clean; rfl, by perr⟩

end

/-- **only parameter errors**: whatever the raw value, a failing `clean` fails with one of the parameter errors -/
theorem clean_err_is_param_error (ctx : Ctx) : ∀ (s : PSpec) (v : Raw) (e : CleanErr), clean ctx s v = .error e → IsParamErr e := by
  intro s
  induction s with
  | result ot fz =>
    intro v e h
    obtain ⟨_, h', _⟩ | ⟨_, h', he⟩ := clean_result ctx ot fz v <;> rw [h'] at h <;> cases h
    exact he
  | list item ih =>
    intro v e h
    obtain rfl | ⟨_, _, x, _, hx⟩ := clean_list_error ctx h
    · perr
    · exact ih x e hx
  | _ => intro v e h; unfold clean at h; err_cases h

theorem mapM_text (kv : List (String × String)) :
    (kv.map fun (k, v) => (k, Raw.str v)).mapM (fun (k, x) => (pyText x).map fun t => (k, t)) = some kv := by
  induction kv with
  | nil => rfl
  | cons p t ih =>
    obtain ⟨k, v⟩ := p
    rw [List.map_cons, List.mapM_cons, ih]
    rfl

theorem clean_tuple_embed (ctx : Ctx) (kv : List (String × String)) : clean ctx .tuple (Clean.dict kv).embed = .ok (.dict kv) := by
  unfold clean; simp only [Clean.embed, mapM_text]

abbrev AbsWd (ctx : Ctx) : Prop := ∀ wd s, ctx.workingDir = some wd → posixIsAbs (posixJoin wd s) = true

/-- typed and idempotent together: the two share the induction over the parameter tree (a list is both item by item) -/
theorem clean_ok (ctx : Ctx) : ∀ (s : PSpec) (v : Raw) (w : Clean), clean ctx s v = .ok w →
    HasType s w ∧ (AbsWd ctx → clean ctx s w.embed = .ok w) := by
  intro s
  induction s with
  | path m =>
    intro v w h
    obtain ⟨p, rfl, hp, hex⟩ := clean_path_ok ctx h
    exact ⟨trivial, fun habs => C20P.path_absolute_kept ctx m p (hp.elim id fun ⟨wd, s, hwd, e⟩ => e ▸ habs wd s hwd) hex⟩
  | result ot fz =>
    intro v w h
    obtain ⟨n, h', hn⟩ | ⟨_, h', _⟩ := clean_result ctx ot fz v <;> rw [h'] at h <;> cases h
    exact ⟨trivial, fun _ => hn⟩
  | list item ih =>
    intro v w h
    obtain ⟨xs, cs, rfl, rfl, hc⟩ := clean_list_ok ctx h
    have hcs := ((List.forall₂_and_left _ _).mp (((cleanList_eq_ok ctx _ _ _).mp hc).imp fun x c h => ⟨ih x c h, h⟩).flip).1
    refine ⟨fun c hc' => (hcs c hc').1, fun habs => ?_⟩
    rw [Clean.embed, embedList_eq_map, clean_list, (cleanList_eq_ok ctx _ _ _).mpr]
    · rfl
    · exact List.forall₂_map_left_iff.mpr (List.forall₂_same.mpr fun c hc' => (hcs c hc').2 habs)
  | tuple =>
    intro v w h; unfold clean at h
    okc h => exact ⟨trivial, fun _ => clean_tuple_embed ctx _⟩
  | dtype types =>
    intro v w h
    have listed t (ht : types.any (·.2 == t) = true) : HasType (.dtype types) (.pytype t) ∧ (AbsWd ctx → clean ctx (.dtype types) (.pytype t) = .ok (.pytype t)) :=
      ⟨ht, fun _ => by unfold clean; simp only [ht, if_true]⟩
    unfold clean at h
    split at h
    · split at h <;> cases h; exact listed _ ‹_›
    · split at h <;> cases h
      rename_i hf
      exact listed _ (List.any_eq_true.mpr ⟨_, List.mem_of_find?_eq_some hf, beq_self_eq_true _⟩)
    · cases h
  -- the scalar classes (and `any`, which returns its argument): every successful branch returns a value of the class's own kind - a text, a
  -- number, a boolean - and on a value of that kind `clean` is the arm that hands it back
  | _ => intro v w h; unfold clean at h; okc h => exact ⟨trivial, fun _ => by unfold clean; rfl⟩

/-- **typed**: a successful `clean` returns a value of the documented type (a whole number, a decimal or a boolean for a Number parameter -
which of them for which input is not said here: `clean_int_stays_int`, `clean_float_stays_float`; a boolean for Boolean parameters, text for String/Path, a command for Result, item-wise for lists, text pairs for tuples, a listed type for DataType) -/
theorem clean_typed (ctx : Ctx) : ∀ (s : PSpec) (v : Raw) (w : Clean), clean ctx s v = .ok w → HasType s w :=
  fun s v w h => (clean_ok ctx s v w h).1

/-- **idempotent**: cleaning an already-cleaned value returns it unchanged.  For relative paths this needs the working
directory to be absolute (premise `habs`: a path joined onto it is absolute) — with a relative working directory the
code joins it a second time (`rel/rel/a.csv`), which is why the property states "under an absolute working directory". -/
theorem clean_idempotent (ctx : Ctx)
    (habs : ∀ wd s, ctx.workingDir = some wd → posixIsAbs (posixJoin wd s) = true) :
    ∀ (s : PSpec) (v : Raw) (w : Clean), clean ctx s v = .ok w → clean ctx s w.embed = .ok w :=
  fun s v w h => (clean_ok ctx s v w h).2 habs

/-- integers stay integers and decimals decimals -/
theorem clean_int_stays_int (ctx : Ctx) (n : Int) : clean ctx .num (.int n) = .ok (.int n) := by unfold clean; rfl
theorem clean_float_stays_float (ctx : Ctx) (q : Rat) : clean ctx .num (.float q) = .ok (.float q) := by unfold clean; rfl

/-- booleans from the true/false/0/1 forms -/
theorem clean_bool_forms (ctx : Ctx) :
    clean ctx .bool (.str "true") = .ok (.bool true) ∧ clean ctx .bool (.str "False") = .ok (.bool false) ∧
    clean ctx .bool (.str "TRUE") = .ok (.bool true) ∧ clean ctx .bool (.str "0") = .ok (.bool false) ∧
    clean ctx .bool (.str "1") = .ok (.bool true) ∧ clean ctx .bool (.int 0) = .ok (.bool false) ∧
    clean ctx .bool (.int 1) = .ok (.bool true) ∧ clean ctx .bool (.bool true) = .ok (.bool true) := by
  refine ⟨?_, ?_, ?_, ?_, ?_, ?_, ?_, ?_⟩ <;> (unfold clean; rfl)

/-- why `clean_idempotent` asks for an absolute working directory, shown on the path functions alone (the statement does not mention `clean`):
joined to the relative directory `rel`, the relative `a.csv` gives `rel/a.csv`, which is again relative, and joined once more `rel/rel/a.csv` -
what `C20P.path_relative_resolved` makes of a second cleaning -/
theorem relative_wd_not_idempotent :
    posixIsAbs "a.csv" = false ∧ posixJoin "rel" "a.csv" = "rel/a.csv" ∧
    posixIsAbs "rel/a.csv" = false ∧ posixJoin "rel" "rel/a.csv" = "rel/rel/a.csv" := by
  decide +kernel

end MPilot.C20
