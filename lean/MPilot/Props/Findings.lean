/-
The known findings of /verif/known_findings.json as theorems about the model: where the pinned code violates a property and the defect was
recorded rather than repaired, the model - which describes the code that exists - violates it too.  Proved here, each on the value part of its
witness, cut down: C10-F10-blanks (`This is)` for `A = B(P = This is a string.)`), C10-F10-leading-zeros (`007x)`), C10-F10-sign (`+5abc)`) -
`plainString` on the tokens written out by hand, and that these are the tokens the lexer delivers - and C17-F16.  Not proved here: the fourth
witness of C10-F10, C10-F10-float-prefix (`1.50x` delivered as `1.5x`).  The theorems of Props/C10.lean and Props/C17.lean cover the rest of the
domain.  C16-F13 (ScoreRange targets) is `scorerange_targets_missing` in Props/C16.lean; C07-F18 (unsigned wrap-around) cannot be stated: the
model has whole numbers and decimals only, no unsigned type.

* C10-F10: an unquoted string of several words loses the blanks between them (`This is` is delivered as `Thisis`); an unquoted string that starts
  with digits is re-rendered through the number (`007x` as `7x`, `+5abc` as `5abc`) - the value delivered is NOT the text that was written;
* C17-F16: a missing cell is written as `--` (what `str(numpy.ma.masked)` gives), which the reader refuses: a written table with a missing cell
  does not read back.
-/
import MPilot.Model.Grammar
import MPilot.Model.Csv

namespace MPilot.Findings

/-- C10-F10 (words): the tokens of `P = This is)` - two identifiers - make the value `Thisis` -/
theorem F10_multiword_loses_blanks :
    (plainString [⟨.id, .str "This", 1⟩, ⟨.id, .str "is", 1⟩, ⟨.rparen, .none, 1⟩]).toOption = some (("Thisis", 1), [⟨.rparen, .none, 1⟩]) := by
  decide +kernel

/-- C10-F10 (leading zeros, sign): `007x` is the integer 7 followed by `x`, delivered as `7x`; `+5abc` as `5abc` -/
theorem F10_number_prefix_rerendered :
    (plainString [⟨.int, .int 7, 1⟩, ⟨.id, .str "x", 1⟩, ⟨.rparen, .none, 1⟩]).toOption = some (("7x", 1), [⟨.rparen, .none, 1⟩]) ∧
    (plainString [⟨.int, .int 5, 1⟩, ⟨.id, .str "abc", 1⟩, ⟨.rparen, .none, 1⟩]).toOption = some (("5abc", 1), [⟨.rparen, .none, 1⟩]) := by
  constructor <;> decide +kernel

/-- ... and these token lists are what the lexer makes of the texts `007x)`, `+5abc)` and `This is)` -/
theorem F10_lexed :
    lexAll 10 ['0', '0', '7', 'x', ')'] 1 = [⟨.int, .int 7, 1⟩, ⟨.id, .str "x", 1⟩, ⟨.rparen, .none, 1⟩] ∧
    lexAll 10 ['+', '5', 'a', 'b', 'c', ')'] 1 = [⟨.int, .int 5, 1⟩, ⟨.id, .str "abc", 1⟩, ⟨.rparen, .none, 1⟩] ∧
    lexAll 10 ['T', 'h', 'i', 's', ' ', 'i', 's', ')'] 1 = [⟨.id, .str "This", 1⟩, ⟨.id, .str "is", 1⟩, ⟨.rparen, .none, 1⟩] := by
  refine ⟨?_, ?_, ?_⟩ <;> decide +kernel

def errOf : Except CsvErr Arr → Option CsvErr
  | .error e => some e
  | .ok _ => none

/-- C17-F16: the table `v` / `1.5` / `--` (a missing cell as the writer renders it) is refused by the reader with the invalid-value error of line 3 -/
theorem F16_masked_cell_unreadable :
    errOf (csvRead ['v', '\n', '1', '.', '5', '\n', '-', '-', '\n'] "v" none false) = some (.invalidValue 3) := by
  decide +kernel

end MPilot.Findings
