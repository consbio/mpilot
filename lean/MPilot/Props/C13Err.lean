/-
C13 — the exception classes the model speaks of exist in the code and are what the model takes them for.

`Generated/ErrTable.lean` is rewritten on every run from `mpilot.exceptions`, `mpilot.libraries.eems.exceptions` and
`mpilot.libraries.eems.netcdf.exceptions`: every exception class the package defines, whether it derives from `MPilotError`, and whether it
derives from `ProgramError` (the errors that carry a line, which the command-line tool marks).  The obligations below are re-checked against
that table: a class that is renamed, removed, or re-based (say, onto `Exception` or `ValueError`) breaks them.  The package defines no exception
class outside the `MPilotError` family; every class name listed below is a class of the code, an `MPilotError`, and - the NetCDF ones apart - a
`ProgramError`.  The three lists are written by hand.  `Model/Program`, `Model/Params`, `Model/Eems2` and `Model/Eems` raise their errors under these names
(`UnexpectedError` apart: the model has the constructor `PErr.unexpected` for it, which `C13.outcomeOf` reports under that name); `Model/Csv`
and `Model/NetCdf` raise constructors of `CsvErr` / `NcErr`, which only the driver (`Main.lean`) prints under the class names.  That what
is raised is a class of the table is a theorem for loading and for the rejections of `run` (`load_errors_declared`, `C13.run_rejection_declared`);
that the EEMS and NetCDF lists are complete is not: a class missing from them is the correspondence's to find.
-/
import MPilot.Props.C11Load
import MPilot.Generated.ErrTable

namespace MPilot.C13E

/-- classes raised by `Model/Program` and `Model/Params`; `ProgramError` by `Model/Eems2.convertNode`; `UnexpectedError` is the class of `PErr.unexpected` -/
def programModelClasses : List String :=
  ["CommandDoesNotExist", "DuplicateResult", "MissingParameters", "NoSuchParameter", "ParameterNotValid", "PathDoesNotExist",
   "InvalidRelativePath", "ResultDoesNotExist", "ResultTypeNotValid", "ResultNotFuzzy", "ResultIsFuzzy", "RecursiveModelStructure",
   "UnexpectedError", "ProgramError"]

/-- the names `Model/Eems` raises (`eMp "…"`), and `InvalidDataFile`, `EmptyDataFile` for the `CsvErr` constructors of `Model/Csv` -/
def eemsModelClasses : List String :=
  ["EmptyInputs", "MixedArrayShapes", "MixedArrayLengths", "MismatchedWeights", "InvalidThresholds", "InvalidDirection",
   "DuplicateRawValues", "InvalidNumberToConsider", "InvalidTruestOrFalsest", "InvalidDataFile", "EmptyDataFile"]

/-- the class names of the three `NcErr` constructors of `Model/NetCdf` that stand for a class -/
def netcdfModelClasses : List String := ["NoSuchVariable", "InvalidPositiveData", "InvalidFuzzyData"]

theorem every_class_is_mpilot_error : ∀ e ∈ Generated.errClasses, e.2.1 = true := by decide

/-- one pass over the table for the program and EEMS classes: each is found under its name, as an `MPilotError` and a `ProgramError` -/
theorem found_as_program_error :
    ∀ n ∈ programModelClasses ++ eemsModelClasses, Generated.errClasses.find? (·.1 == n) = some (n, true, true) := by
  decide +kernel

theorem program_errors_declared : ∀ n ∈ programModelClasses, (n, true, true) ∈ Generated.errClasses :=
  fun n h => List.mem_of_find?_eq_some (found_as_program_error n (List.mem_append_left _ h))

theorem eems_errors_declared : ∀ n ∈ eemsModelClasses, (n, true, true) ∈ Generated.errClasses :=
  fun n h => List.mem_of_find?_eq_some (found_as_program_error n (List.mem_append_right _ h))

theorem netcdf_errors_declared : ∀ n ∈ netcdfModelClasses, (n, true, true) ∈ Generated.errClasses ∨ (n, true, false) ∈ Generated.errClasses := by
  decide +kernel

/-- **a load error is an instance of a declared `ProgramError` class**, for every library and every file -/
theorem load_errors_declared (lib : String → Option CmdDecl) (nodes : List Node) (p : Program) (e : PErr)
    (h : fromNodes lib p nodes = .error e) : ∃ cls line, e = .mp cls line ∧ (cls, true, true) ∈ Generated.errClasses := by
  obtain ⟨n, _, hn⟩ := C11.load_error_line lib nodes p e h
  cases hn <;> exact ⟨_, _, rfl, program_errors_declared _ (by simp [programModelClasses])⟩

end MPilot.C13E
