/-
C11, end to end in the model, for the whole pipeline `parse = parseToks ∘ lex` on LF / CRLF text: the line of every command of an accepted text is
the line of an `ID` token of the text (`command_line`, Props/C11Nodes), and that token carries its true source line (`lex_line_exact`,
Props/C11Exact: 1 + the line feeds before the position it was scanned at).  Which `ID` token is not in the statements; it is the command name,
by `C10R.command_ok`.
-/
import MPilot.Props.C11Nodes
import MPilot.Props.C11Exact

namespace MPilot.C11N
open MPilot.C10R MPilot.C11X

theorem parse_go_lines : ∀ (fuel : Nat) (ts : List Tok) (acc : List CNode) (v2 : Bool) (p : PNode),
    parseToks.go fuel ts acc v2 = .ok p → ∀ c ∈ p.commands, c ∈ acc ∨ ∃ t ∈ ts, t.kind = .id ∧ c.line = t.line := by
  intro fuel ts acc v2 p h
  fun_induction parseToks.go fuel ts acc v2 with
  | case3 fuel ts acc v2 c0 isV2 hc =>
    cases h
    intro c hcm
    rcases List.mem_cons.mp (List.mem_reverse.mp hcm) with rfl | hcm
    · exact .inr (command_line ts c isV2 [] hc)
    · exact .inl hcm
  | case4 fuel ts acc v2 c0 isV2 rest hc _ ih =>
    obtain ⟨pre, hpre, _⟩ := command_consumes hc
    intro c hcm
    rcases ih h c hcm with hin | ⟨t, ht, hk, hl⟩
    · rcases List.mem_cons.mp hin with rfl | hin
      · exact .inr (command_line ts c isV2 rest hc)
      · exact .inl hin
    · exact .inr ⟨t, hpre ▸ List.mem_append_right _ ht, hk, hl⟩
  | _ => cases h

/-- **every command of an accepted text carries the true line of an `ID` token of the text**: one plus the number of line feeds before the position
at which that token was scanned.  The statement does not say which token; it is the command name (the second name in `Result = Command(...)`,
the first token of an EEMS 2.0 command): that is `C10R.command_ok` -/
theorem command_lines_exact (src : String) (hcr : NoLoneCR src.toList) (p : PNode) (hp : parse src = .ok p) :
    ∀ c ∈ p.commands, ∃ t ∈ lex src, t.kind = .id ∧ c.line = t.line ∧ ScannedAt src.toList t := by
  intro c hc
  unfold parse parseToks at hp
  rcases parse_go_lines _ _ _ _ p hp c hc with hin | ⟨t, ht, hk, hl⟩
  · cases hin
  · exact ⟨t, ht, hk, hl, lex_line_exact src hcr t ht⟩

end MPilot.C11N
