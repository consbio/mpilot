/-
C11 — the line a parse-tree node carries, for every token list the parser accepts (not only the renderings of C10's `parse_text`): an expression
node (a value, a list, a list element, an unquoted string of several tokens) the line of its first token, an argument node that of its name, a
tuple value that of its key.  For a command node `command_line` only says "of an `ID` token of the input"; that this token is the command name
(`B` in `A = B(...)`, the first token in EEMS 2.0 form) is `C10R.command_ok`.  With `lex_line_exact` (Props/C11Exact: a token's line is 1 + the
line feeds before it) this is the first sentence of the property.  Each theorem is a projection of the `f_ok` lemma of its parsing function
(Props/C10Reject; `tuplePair_consumes` for the tuple pair).
-/
import MPilot.Props.C10Reject

namespace MPilot.C11N
open MPilot.C10R

/-- **an expression node carries the line of its first token** -/
theorem expression_line (fuel : Nat) (ts : List Tok) (e : ENode) (rest : List Tok) (h : expression fuel ts = .ok (e, rest)) :
    ∃ t r, ts = t :: r ∧ e.line = t.line := by
  obtain ⟨_, t, r, _, hts, _, hl, _⟩ := expression_ok h
  exact ⟨t, r, hts, hl⟩

/-- **an argument node carries the line of its name** -/
theorem argument_line (ts : List Tok) (a : ANode) (rest : List Tok) (h : argument ts = .ok (a, rest)) :
    ∃ t r, ts = t :: r ∧ t.kind = .id ∧ a.line = t.line := by
  obtain ⟨n, e, r, _, rfl, _, hk, _, _, _, hl⟩ := argument_ok h
  exact ⟨n, _, rfl, hk, hl⟩

/-- **a command node carries the line of an `ID` token of the input**; the statement does not say which one.  It is the command name (second name
in `Result = Command(...)`, first token in EEMS 2.0 form): that is `C10R.command_ok` -/
theorem command_line (ts : List Tok) (c : CNode) (v2 : Bool) (rest : List Tok) (h : command ts = .ok ((c, v2), rest)) :
    ∃ t ∈ ts, t.kind = .id ∧ c.line = t.line := by
  obtain ⟨t, r, args, rfl, _, hk, ⟨e, n, r1, rfl, _, _, _, hk3, _, hl⟩ | ⟨_, hl⟩⟩ := command_ok h
  · exact ⟨n, by simp, hk3, hl⟩
  · exact ⟨t, by simp, hk, hl⟩

/-- **a tuple value carries the line of its key** -/
theorem tuplePair_line (ts : List Tok) (k : String) (v : ENode) (rest : List Tok) (h : tuplePair ts = .ok ((k, v), rest)) :
    ∃ t r, ts = t :: r ∧ v.line = t.line := (tuplePair_consumes h).2

end MPilot.C11N
