/-
C05, beside shape and rearrangement (Props/C05.lean) — nothing depends on how large a field is: the same field repeated k times over gives the
same cells, k times over.

The whole-array statistics (minimum, maximum, mean, population variance, the five of the mean-to-mid commands) of a repeated field are those of
the field; every single-input command that maps its field through them - Normalize, NormalizeZScore, CvtToFuzzyZScore, CvtToFuzzy, the two
mean-to-mid and the two curve-by-z-score commands - therefore commutes with repetition, as do the curve commands, which read no statistic.
These are the theorems behind the tiled-field twin of the harness.
-/
import MPilot.Lemmas.PlanProps

namespace MPilot.C05T

def rep {α : Type} (k : Nat) (l : List α) : List α := (List.replicate k l).flatten

@[simp]
theorem rep_zero {α : Type} (l : List α) : rep 0 l = [] := rfl

/-- the field repeated `k` times along its first axis -/
def tile (k : Nat) (a : Arr) : Arr :=
  { dtype := a.dtype, shape := (match a.shape with | [] => [k] | n :: r => (k * n) :: r), cells := rep k a.cells }

theorem tile_valid (k : Nat) (a : Arr) : (tile k a).valid = rep k a.valid := by
  simp only [Arr.valid, tile, rep, List.filter_flatten, List.map_flatten, List.map_replicate]

/-! ### statistics of a repeated field: a repetition is a `Cover` (Lemmas/Stats) -/

theorem minL_rep (k : Nat) (hk : 0 < k) (l : List Rat) : minL (rep k l) = minL l := minL_cover (.refl _) hk

theorem maxL_rep (k : Nat) (hk : 0 < k) (l : List Rat) : maxL (rep k l) = maxL l := maxL_cover (.refl _) hk

theorem meanL_rep (k : Nat) (hk : 0 < k) (l : List Rat) : meanL (rep k l) = meanL l := meanL_cover (.refl _) hk

theorem varL_rep (k : Nat) (hk : 0 < k) (l : List Rat) : varL (rep k l) = varL l := varL_cover (.refl _) hk

/-- the five statistics of the mean-to-mid commands (minimum, maximum, mean, mean of the lower part, mean of the upper part; zeros ignored or not)
are those of the field -/
theorem mtmStats_rep (k : Nat) (hk : 0 < k) (l : List Rat) (iz : Bool) : mtmStats (rep k l) iz = mtmStats l iz :=
  mtmStats_cover (.refl _) hk iz

/-- non-vacuity: the statistics of [1, 4, 2] repeated three times -/
example : minL (rep 3 [1, 4, 2]) = some 1 ∧ maxL (rep 3 [1, 4, 2]) = some 4 ∧ meanL (rep 3 [1, 4, 2]) = some (7 / 3) ∧ varL (rep 3 [1, 4, 2]) = varL [1, 4, 2] := by
  decide +kernel

/-! ### the single-field commands commute with repetition

Repetition commutes with every cell-wise map, and the checks of a command see a repeated field as they see the field (`view_tile`: the same
statistics); `exec_one_map` (Lemmas/PlanProps) does the rest, for every single-input command alike. -/

theorem tile_mapCells (k : Nat) (f : Cell → Cell) (a : Arr) : tile k (a.mapCells f) = (tile k a).mapCells f := by
  simp only [tile, Arr.mapCells, rep, List.map_flatten, List.map_replicate]

theorem view_tile (k : Nat) (hk : 0 < k) (a : Arr) : view [tile k a] = view [a] := by
  simp only [view, List.headD_cons, tile_valid, stats_cover (l' := rep k a.valid) (.refl _) hk, List.length_singleton]
  rfl

theorem exec_tile (sqrt : Rat → Rat) (k : Nat) {c : DataCmd} (hc : c.inputs = .exactly 1) (a : Arr)
    (hv : plan sqrt c (view [tile k a]) = plan sqrt c (view [a])) : exec sqrt c [tile k a] = (exec sqrt c [a]).map (tile k) :=
  exec_one_map (tile_mapCells k) (fun _ _ => rfl) sqrt hc a hv

/-- every single-input command commutes with repetition; the theorems below name those whose mapping is taken from the field -/
theorem single_input_tile (sqrt : Rat → Rat) {k : Nat} (hk : 0 < k) {c : DataCmd} (hc : c.inputs = .exactly 1) (a : Arr) :
    exec sqrt c [tile k a] = (exec sqrt c [a]).map (tile k) :=
  exec_tile sqrt k hc a (congrArg _ (view_tile k hk a))

/-- **Normalize on a repeated field** gives the same outcome as on the field: the same error, or the result repeated -/
theorem normalize_tile (sqrt : Rat → Rat) (k : Nat) (hk : 0 < k) (a : Arr) (st en : Option Num) :
    exec sqrt (.normalize st en) [tile k a] = (exec sqrt (.normalize st en) [a]).map (tile k) :=
  single_input_tile sqrt hk rfl a

/-- **the two z-score commands on a repeated field**: NormalizeZScore here, CvtToFuzzyZScore in `cvtToFuzzyZScore_tile` -/
theorem zscore_commands_tile (sqrt : Rat → Rat) (k : Nat) (hk : 0 < k) (a : Arr) (tt ft st en : Option Num) :
    exec sqrt (.normalizeZScore tt ft st en) [tile k a] = (exec sqrt (.normalizeZScore tt ft st en) [a]).map (tile k) :=
  single_input_tile sqrt hk rfl a

theorem cvtToFuzzyZScore_tile (sqrt : Rat → Rat) (k : Nat) (hk : 0 < k) (a : Arr) (tt ft : Option Num) :
    exec sqrt (.cvtToFuzzyZScore tt ft) [tile k a] = (exec sqrt (.cvtToFuzzyZScore tt ft) [a]).map (tile k) :=
  single_input_tile sqrt hk rfl a

theorem meanToMid_commands_tile (sqrt : Rat → Rat) (k : Nat) (hk : 0 < k) (a : Arr) (iz : Bool) (vals : List Num) :
    exec sqrt (.normalizeMeanToMid iz vals) [tile k a] = (exec sqrt (.normalizeMeanToMid iz vals) [a]).map (tile k) ∧
    exec sqrt (.cvtToFuzzyMeanToMid iz vals) [tile k a] = (exec sqrt (.cvtToFuzzyMeanToMid iz vals) [a]).map (tile k) :=
  ⟨single_input_tile sqrt hk rfl a, single_input_tile sqrt hk rfl a⟩

theorem curveZScore_commands_tile (sqrt : Rat → Rat) (k : Nat) (hk : 0 < k) (a : Arr) (z vals : List Num) :
    exec sqrt (.normalizeCurveZScore z vals) [tile k a] = (exec sqrt (.normalizeCurveZScore z vals) [a]).map (tile k) ∧
    exec sqrt (.cvtToFuzzyCurveZScore z vals) [tile k a] = (exec sqrt (.cvtToFuzzyCurveZScore z vals) [a]).map (tile k) :=
  ⟨single_input_tile sqrt hk rfl a, single_input_tile sqrt hk rfl a⟩

/-- **CvtToFuzzy on a repeated field**, thresholds given or taken from the data (its minimum and maximum, in either direction) -/
theorem cvtToFuzzy_tile (sqrt : Rat → Rat) (k : Nat) (hk : 0 < k) (a : Arr) (tt ft : Option Num) (dir : Option String) :
    exec sqrt (.cvtToFuzzy tt ft dir) [tile k a] = (exec sqrt (.cvtToFuzzy tt ft dir) [a]).map (tile k) :=
  single_input_tile sqrt hk rfl a

/-- and the curve commands, whose mapping does not depend on the field at all -/
theorem curve_commands_tile (sqrt : Rat → Rat) (k : Nat) (a : Arr) (raw vals : List Num) :
    exec sqrt (.normalizeCurve raw vals) [tile k a] = (exec sqrt (.normalizeCurve raw vals) [a]).map (tile k) ∧
    exec sqrt (.cvtToFuzzyCurve raw vals) [tile k a] = (exec sqrt (.cvtToFuzzyCurve raw vals) [a]).map (tile k) :=
  ⟨exec_tile sqrt k rfl a rfl, exec_tile sqrt k rfl a rfl⟩

end MPilot.C05T
