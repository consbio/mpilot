/-
C20 — "relative paths resolved against the working directory".

What `PathParameter.clean` returns for a text value, case by case (the model's `clean` is a function of the value, the working directory and
what exists on disk NOW - nothing remembered from earlier cleanings can enter):
* `path_relative_resolved`: a relative path is joined to the working directory (and must exist there when the parameter says so);
* `path_absolute_kept`: an absolute path is returned as it is, whatever the working directory;
* `path_missing`: a path that must exist and does not - at the moment of cleaning - is `PathDoesNotExist`, also when it existed at an earlier
  cleaning (`path_follows_the_disk`);
* `path_relative_without_wd`: a relative path without working directory is `InvalidRelativePath`.
-/
import MPilot.Model.Params

namespace MPilot.C20P

/-- with a working directory, a text is resolved and then looked for on the disk -/
theorem clean_path_str (ctx : Ctx) (me : Bool) (s wd : String) (hwd : ctx.workingDir = some wd) :
    clean ctx (.path me) (.str s) =
      if me && !ctx.exists_ (if posixIsAbs s then s else posixJoin wd s) then .error "PathDoesNotExist"
      else .ok (.str (if posixIsAbs s then s else posixJoin wd s)) := by
  unfold clean
  cases habs : posixIsAbs s <;> simp [pyText, habs, hwd]

theorem path_relative_resolved (ctx : Ctx) (me : Bool) (s wd : String) (hrel : posixIsAbs s = false) (hwd : ctx.workingDir = some wd)
    (hex : me = true → ctx.exists_ (posixJoin wd s) = true) :
    clean ctx (.path me) (.str s) = .ok (.str (posixJoin wd s)) := by
  rw [clean_path_str ctx me s wd hwd, hrel]
  cases me with
  | false => rfl
  | true => simp [hex rfl]

theorem path_absolute_kept (ctx : Ctx) (me : Bool) (s : String) (habs : posixIsAbs s = true) (hex : me = true → ctx.exists_ s = true) :
    clean ctx (.path me) (.str s) = .ok (.str s) := by
  unfold clean
  simp only [pyText, habs, Bool.not_true, Bool.false_eq_true, if_false]
  cases me with
  | false => simp
  | true => simp [hex rfl]

theorem path_missing (ctx : Ctx) (s wd : String) (hwd : ctx.workingDir = some wd)
    (hno : ctx.exists_ (if posixIsAbs s then s else posixJoin wd s) = false) :
    clean ctx (.path true) (.str s) = .error "PathDoesNotExist" := by
  rw [clean_path_str ctx true s wd hwd, hno]; rfl

theorem path_relative_without_wd (ctx : Ctx) (me : Bool) (s : String) (hrel : posixIsAbs s = false) (hwd : ctx.workingDir = none) :
    clean ctx (.path me) (.str s) = .error "InvalidRelativePath" := by
  unfold clean
  simp [pyText, hrel, hwd]

/-- **cleaning follows the disk**: two contexts that differ only in what exists give, for a path that exists in the first and not in the second, a
path and `PathDoesNotExist` - in whatever order the two cleanings happen and however often -/
theorem path_follows_the_disk (c1 c2 : Ctx) (s wd : String) (hw1 : c1.workingDir = some wd) (hw2 : c2.workingDir = some wd)
    (h1 : c1.exists_ (if posixIsAbs s then s else posixJoin wd s) = true) (h2 : c2.exists_ (if posixIsAbs s then s else posixJoin wd s) = false) :
    (∃ p, clean c1 (.path true) (.str s) = .ok (.str p)) ∧ clean c2 (.path true) (.str s) = .error "PathDoesNotExist" := by
  exact ⟨⟨_, by rw [clean_path_str c1 true s wd hw1, h1]; rfl⟩, path_missing c2 s wd hw2 h2⟩

end MPilot.C20P
