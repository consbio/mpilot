/-
C02 — model results equal the evaluation of the graph, whatever the file order.

`Sol`: the memo satisfies the defining equations of the graph (the result of each finished command is `compute` applied to the
results of the commands it reads).  `run_sol`: a successful run establishes it.  `sol_unique`: in an acyclic graph the equations
have at most one solution — the mathematical evaluation (denotation) of the graph.  Hence the results cannot depend on the
textual order, on further consumers, or on anything else that leaves the equations of a command unchanged (metadata never
enters `compute` of the data commands: `DataCmd` has no such field).
-/
import MPilot.Props.C01
import MPilot.Lemmas.Clean

namespace MPilot.C02
open MPilot.C01

variable {Val : Type}

section
variable (sem : Sem Val) (p : Program)

/-- the value `v` recorded for `n` satisfies the graph's equation at `n` -/
def SolAt (st : St Val) (n : String) (v : Val) : Prop :=
  ∃ c vals, p.find? n = some c ∧ List.Forall₂ (fun d x => st.get? d = some x) (sem.pulls c) vals ∧ sem.compute c vals = .ok v

def Sol (st : St Val) : Prop := ∀ n v, st.get? n = some v → SolAt sem p st n v

variable {sem p}

/-- **every event keeps the equations**: what is stored stays, and what is stored anew is `compute` of the stored reads -/
theorem sol_of_reach {A : String → Prop} {s s' : St Val} (h : Reach sem p A s s') (hs : Sol sem p s) : Sol sem p s' := by
  induction h with
  | refl => exact hs
  | enter n _ ih => exact ih
  | @leave s2 n c vals v _ ha hn hc hf hv ih =>
    have keep := fun d x => (Reach.refl.leave ha hn hc hf hv).get?_some (d := d) (x := x)
    intro k x hk
    -- a lookup finds what was stored before or, failing that, the new entry
    rw [get?_leave, Option.or_eq_some_iff] at hk
    rcases hk with hold | ⟨-, hk⟩
    · obtain ⟨c', vals', hc', hf', hv'⟩ := ih k x hold
      exact ⟨c', vals', hc', hf'.imp keep, hv'⟩
    · obtain ⟨rfl, ⟨⟩⟩ := Option.ite_none_right_eq_some.mp hk
      exact ⟨c, vals, hc, hf.imp keep, hv⟩

variable (sem p) (r : String → Nat)

/-- **the run loop computes a solution of the graph's equations** -/
theorem run_sol (hr : Ranked sem p r) (st st' : St Val) (hinv : InvO sem p [] st) (hsol : Sol sem p st)
    (h : run sem p st = (st', none)) : Sol sem p st' :=
  sol_of_reach (run_reach hr h).1 hsol

theorem sol_init : Sol sem p ({ memo := [], log := [] } : St Val) := by
  intro n v h; simp [St.get?] at h

end

/-- uniqueness of the evaluation up to a relation between the commands of two programs under which bodies read and compute alike -/
theorem sol_unique_rel (sem : Sem Val) (p1 p2 : Program) (r : String → Nat) (hr : Ranked sem p1 r) (S : String → Prop)
    (R : PCmd → PCmd → Prop) (hsem : ∀ c c', R c c' → sem.pulls c = sem.pulls c' ∧ sem.compute c = sem.compute c')
    (hagree : ∀ n c, S n → p1.find? n = some c → ∃ c', p2.find? n = some c' ∧ R c c')
    (hclosed : ∀ n c, S n → p1.find? n = some c → ∀ d ∈ sem.pulls c, S d)
    (st1 st2 : St Val) (h1 : Sol sem p1 st1) (h2 : Sol sem p2 st2) :
    ∀ (k : Nat) (n : String), r n < k → S n → ∀ v1 v2, st1.get? n = some v1 → st2.get? n = some v2 → v1 = v2 := by
  intro k
  induction k with
  | zero => intro n hk; omega
  | succ k ih =>
    intro n hk hS v1 v2 hg1 hg2
    obtain ⟨c1, vals1, hc1, hf1, hcomp1⟩ := h1 n v1 hg1
    obtain ⟨c2, vals2, hc2, hf2, hcomp2⟩ := h2 n v2 hg2
    obtain ⟨c', hc', hR⟩ := hagree n c1 hS hc1
    cases hc2.symm.trans hc'
    obtain ⟨hpulls, hcompute⟩ := hsem c1 c2 hR
    -- both bodies read the same names, each of smaller rank and in `S`: the values read agree position by position
    have hvals : vals1 = vals2 := by
      obtain ⟨hl1, hx1⟩ := List.forall₂_iff_get.mp hf1
      obtain ⟨hl2, hx2⟩ := List.forall₂_iff_get.mp (hpulls ▸ hf2)
      refine List.ext_get (hl1.symm.trans hl2) fun i hi1 hi2 => ?_
      have hd := List.get_mem (sem.pulls c1) ⟨i, hl1 ▸ hi1⟩
      exact ih _ (Nat.lt_of_lt_of_le (hr n c1 hc1 _ hd) (Nat.le_of_lt_succ hk)) (hclosed n c1 hS hc1 _ hd) _ _ (hx1 i _ hi1) (hx2 i _ hi2)
    rw [hvals, hcompute, hcomp2] at hcomp1
    exact (Except.ok.inj hcomp1).symm

/-- **uniqueness of the evaluation.**  Two programs that agree (same command, same reads, same computation) on a set `S` of result names
closed under "reads" assign the same value to every name of `S`, in any two states that satisfy their equations. -/
theorem sol_unique (sem : Sem Val) (p1 p2 : Program) (r : String → Nat) (hr : Ranked sem p1 r) (S : String → Prop)
    (hagree : ∀ n, S n → p1.find? n = p2.find? n)
    (hclosed : ∀ n c, S n → p1.find? n = some c → ∀ d ∈ sem.pulls c, S d)
    (st1 st2 : St Val) (h1 : Sol sem p1 st1) (h2 : Sol sem p2 st2) :
    ∀ (k : Nat) (n : String), r n < k → S n → ∀ v1 v2, st1.get? n = some v1 → st2.get? n = some v2 → v1 = v2 :=
  sol_unique_rel sem p1 p2 r hr S (· = ·) (fun _ _ e => e ▸ ⟨rfl, rfl⟩) (fun n c hS hc => ⟨c, hagree n hS ▸ hc, rfl⟩) hclosed st1 st2 h1 h2

/-- **two runs agree.**  Two acyclic programs that both run successfully from the empty state give the same result to every name of a set `S` that is
closed under "reads" and on which their commands correspond under `R` (bodies related by `R` read and compute alike): both runs solve the
equations (`run_sol`), which have one solution (`sol_unique_rel`).  Order, further consumers and metadata are three choices of `S` and `R`. -/
theorem runs_agree (sem : Sem Val) (p p' : Program) (r r' : String → Nat) (hr : Ranked sem p r) (hr' : Ranked sem p' r') (S : String → Prop)
    (R : PCmd → PCmd → Prop) (hsem : ∀ c c', R c c' → sem.pulls c = sem.pulls c' ∧ sem.compute c = sem.compute c')
    (hagree : ∀ n c, S n → p.find? n = some c → ∃ c', p'.find? n = some c' ∧ R c c')
    (hclosed : ∀ n c, S n → p.find? n = some c → ∀ d ∈ sem.pulls c, S d)
    {st st' : St Val} (h : run sem p { memo := [], log := [] } = (st, none)) (h' : run sem p' { memo := [], log := [] } = (st', none))
    (n : String) (hn : S n) (v v' : Val) : st.get? n = some v → st'.get? n = some v' → v = v' :=
  sol_unique_rel sem p p' r hr S R hsem hagree hclosed st st' (run_sol sem p r hr _ st (inv_init sem p) (sol_init sem p) h)
    (run_sol sem p' r' hr' _ st' (inv_init sem p') (sol_init sem p') h') (r n + 1) n (Nat.lt_succ_self _) hn v v'

theorem find?_perm {l l' : List PCmd} (hp : l.Perm l') (hnd : (l.map (·.resultName)).Nodup) (n : String) :
    l.find? (·.resultName == n) = l'.find? (·.resultName == n) := by
  induction hp with
  | nil => rfl
  | cons x _ ih => simp only [List.find?_cons, ih (List.nodup_cons.mp hnd).2]
  | swap x y l =>
    -- only one of two neighbours can carry the name `n`
    have hxy : y.resultName ≠ x.resultName := fun e => (List.nodup_cons.mp hnd).1 (by simp [e])
    simp only [List.find?_cons]
    cases hx : x.resultName == n <;> cases hy : y.resultName == n <;> try rfl
    exact absurd ((beq_iff_eq.mp hy).trans (beq_iff_eq.mp hx).symm) hxy
  | trans h1 _ ih1 ih2 => exact (ih1 hnd).trans (ih2 ((h1.map _).nodup_iff.mp hnd))

/-- **C02 (order independence).**  Two command files that contain the same commands in different orders (distinct result names,
acyclic references) and both run successfully give every command the same result. -/
theorem results_order_independent (sem : Sem Val) (p p' : Program) (r : String → Nat) (hperm : p.cmds.Perm p'.cmds)
    (hnd : (p.cmds.map (·.resultName)).Nodup) (hr : Ranked sem p r)
    (st st' : St Val) (h : run sem p { memo := [], log := [] } = (st, none)) (h' : run sem p' { memo := [], log := [] } = (st', none)) :
    ∀ n v v', st.get? n = some v → st'.get? n = some v' → v = v' := by
  have hfind : ∀ n, p.find? n = p'.find? n := fun n => find?_perm hperm hnd n
  have hr' : Ranked sem p' r := fun n c hc d hd => hr n c (by rw [hfind n]; exact hc) d hd
  exact fun n => runs_agree sem p p' r r hr hr' (fun _ => True) (· = ·) (fun _ _ e => e ▸ ⟨rfl, rfl⟩)
    (fun n c _ hc => ⟨c, hfind n ▸ hc, rfl⟩) (fun _ _ _ _ _ _ => trivial) h h' n trivial

/-- **C02 (other consumers are irrelevant).**  Adding commands to a model (further consumers of intermediate results, or anything else
with fresh result names) does not change the result of any command of the original model. -/
theorem results_unaffected_by_added_commands (sem : Sem Val) (p p' : Program) (r r' : String → Nat)
    (hr : Ranked sem p r) (hr' : Ranked sem p' r')
    (hext : ∀ n c, p.find? n = some c → p'.find? n = some c)
    (hinside : ∀ n c, p.find? n = some c → ∀ d ∈ sem.pulls c, (p.find? d).isSome = true)
    (st st' : St Val) (h : run sem p { memo := [], log := [] } = (st, none)) (h' : run sem p' { memo := [], log := [] } = (st', none)) :
    ∀ n v v', (p.find? n).isSome = true → st.get? n = some v → st'.get? n = some v' → v = v' :=
  fun n v v' hn => runs_agree sem p p' r r' hr hr' (fun k => (p.find? k).isSome = true) (· = ·) (fun _ _ e => e ▸ ⟨rfl, rfl⟩)
    (fun n c _ hc => ⟨c, hext n c hc, rfl⟩) (fun k c _ hc => hinside k c hc) h h' n hn v v'

/-- **composability.**  A data input (a reference parameter asking for data, with or without a fuzziness requirement - directly or as an item of a list)
accepts the name of every command of the program that declares a data output and whose fuzziness is compatible: before that command has run
(its declaration is checked) and after it has run and holds an array (its result is checked).  Nothing else about the producer matters -
which command it is, where it stands in the file, who else consumes it. -/
theorem data_feeds_data (ctx : Ctx) (fz : Option Bool) (s : String) (info : CmdInfo)
    (hl : ctx.lookup s = some info) (hout : info.output = some .data)
    (hfz : fz = none ∨ fz = some info.isFuzzy) (hres : info.finished = true → info.resultKind = .array) :
    clean ctx (.result (some .data) fz) (.str s) = .ok (.cmd s) := by
  have h1 : (fz == some true && !info.isFuzzy) = false := by rcases hfz with rfl | rfl <;> cases info.isFuzzy <;> rfl
  have h2 : (fz == some false && info.isFuzzy) = false := by rcases hfz with rfl | rfl <;> cases info.isFuzzy <;> rfl
  unfold clean
  simp only [hl, Option.isSome_some, if_true, h1, h2, hout, Bool.false_eq_true, if_false]
  -- not yet run: the declared output is looked at; finished: the result is
  cases hfin : info.finished
  · rfl
  · simp only [hres hfin, if_true]; rfl

/-- ... and an input that demands the other fuzziness refuses it with the specific error, whatever else holds -/
theorem data_wrong_fuzziness (ctx : Ctx) (ot : Option PClass) (s : String) (info : CmdInfo) (hl : ctx.lookup s = some info) :
    (info.isFuzzy = false → clean ctx (.result ot (some true)) (.str s) = .error "ResultNotFuzzy") ∧
    (info.isFuzzy = true → clean ctx (.result ot (some false)) (.str s) = .error "ResultIsFuzzy") := by
  -- the fuzziness guards are the first thing `clean` asks of a result it has found
  constructor <;> intro h <;> unfold clean <;> simp [hl, h]

/-- a list of such names is accepted item by item -/
theorem data_list_feeds (ctx : Ctx) (fz : Option Bool) : ∀ (names : List String),
    (∀ s ∈ names, ∃ info, ctx.lookup s = some info ∧ info.output = some .data ∧ (fz = none ∨ fz = some info.isFuzzy) ∧
      (info.finished = true → info.resultKind = .array)) →
    clean ctx (.list (.result (some .data) fz)) (.list (names.map Raw.str)) = .ok (.list (names.map Clean.cmd)) := by
  intro names h
  rw [clean_list, (cleanList_eq_ok ctx _ _ _).mpr]; rfl
  rw [List.forall₂_map_left_iff, List.forall₂_map_right_iff, List.forall₂_same]
  exact fun s hs => (h s hs).elim fun info ⟨hl, hout, hfz, hres⟩ => data_feeds_data ctx fz s info hl hout hfz hres

end MPilot.C02
