/-
C19 — the outcome of a construction is a function of what is registered UNDER the requested libraries, library loading included.

`register_outside_irrelevant` / `history_outside_irrelevant` (Props/C19.lean) say that registering commands outside the requested libraries
changes nothing.  Here the step `Program.__init__` itself performs - loading the requested libraries, which registers their built-in classes -
is included, and the statement is about two arbitrary process histories: two registries that agree on the entries under the requested libraries
give the same outcome for that request (the same table, or the same clash), whatever else differs between them - other programs constructed
earlier (which loaded other libraries), other user libraries imported, classes defined in modules whose names merely share a prefix.
-/
import MPilot.Props.C19

namespace MPilot.C19

/-- an entry clashes (same module and name) only with entries of its own module: the test `register` makes can be made on the selected part -/
theorem any_clash_filter (reg : Registry) (libs : List String) (e : RegEntry) (he : inLibs libs e = true) :
    (reg.filter (inLibs libs)).any (fun i => i.module == e.module && i.name == e.name) = reg.any (fun i => i.module == e.module && i.name == e.name) := by
  rw [List.any_filter]
  congr 1; funext x
  by_cases hm : x.module = e.module
  · have hx : inLibs libs x = true := by unfold inLibs at he ⊢; rw [hm]; exact he
    rw [hx, Bool.true_and]
  · simp [hm]

/-- selecting the entries under `libs` commutes with registering a class -/
theorem filter_register (reg : Registry) (libs : List String) (e : RegEntry) :
    (register reg e).filter (inLibs libs) = if inLibs libs e then register (reg.filter (inLibs libs)) e else reg.filter (inLibs libs) := by
  by_cases he : inLibs libs e = true
  · rw [if_pos he]
    unfold register
    rw [any_clash_filter reg libs e he]
    split
    · rfl
    · simp [List.filter_append, he]
  · rw [if_neg he, filter_register_outside reg libs e (by simpa using he)]

theorem filter_foldl_register (libs : List String) (es : List RegEntry) : ∀ (reg reg' : Registry),
    reg.filter (inLibs libs) = reg'.filter (inLibs libs) →
    (es.foldl register reg).filter (inLibs libs) = (es.foldl register reg').filter (inLibs libs) := by
  induction es with
  | nil => intro reg reg' h; exact h
  | cons e rest ih =>
    intro reg reg' h
    simp only [List.foldl_cons]
    apply ih
    rw [filter_register, filter_register, h]

/-- **the outcome of a construction is determined by what is registered under the requested libraries** - loading those libraries included -/
theorem construction_determined (builtin : List RegEntry) (reg reg' : Registry) (libs : List String)
    (h : reg.filter (inLibs libs) = reg'.filter (inLibs libs)) :
    lookup (loadLibs builtin reg libs) libs = lookup (loadLibs builtin reg' libs) libs := by
  apply lookup_congr
  unfold loadLibs
  exact filter_foldl_register libs _ reg reg' h

/-- two histories that begin with a construction for `libs`, from registries with the same entries under `libs`: that construction has the same
outcome in both, whatever follows it (`rest`, `rest'`).  How the two registries came about is not in the statement;
`filter_foldl_outside` (definitions outside `libs`) and `filter_foldl_register` (the same definitions on both sides) give cases in which they agree. -/
theorem runHistory_construct_determined (builtin : List RegEntry) (reg reg' : Registry) (libs : List String) (rest rest' : List RegEv)
    (h : reg.filter (inLibs libs) = reg'.filter (inLibs libs)) :
    (runHistory builtin reg (.construct libs :: rest)).head? = (runHistory builtin reg' (.construct libs :: rest')).head? := by
  simp only [runHistory, List.head?_cons]
  rw [construction_determined builtin reg reg' libs h]

/-- loading OTHER libraries (an earlier program's) leaves the selection under `libs` alone as far as their entries lie outside `libs` -/
theorem other_program_irrelevant (builtin : List RegEntry) (reg : Registry) (libs other : List String)
    (hout : ∀ e ∈ builtin.filter (inLibs other), inLibs libs e = false) :
    lookup (loadLibs builtin (loadLibs builtin reg other) libs) libs = lookup (loadLibs builtin reg libs) libs :=
  construction_determined builtin _ reg libs (filter_foldl_outside libs _ hout reg)

/-- **a request for no libraries is offered no commands** - whatever is registered, whatever was loaded before (an explicit empty request is not
"the default request") -/
theorem empty_request_offers_nothing (builtin : List RegEntry) (reg : Registry) :
    lookup (loadLibs builtin reg []) [] = .ok [] := by
  have h : ∀ r : Registry, r.filter (inLibs []) = [] := by
    intro r; simp [inLibs]
  unfold lookup
  simp only [h]
  rfl

end MPilot.C19
