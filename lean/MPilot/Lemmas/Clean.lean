/-
Lemmas/Clean — what `clean` (Model/Params) does on a list (`cleanList`, item by item), on a reference to a result and on a path; the scalar
classes are read off the definition where they are needed.
-/
import MPilot.Model.Params
import MPilot.Lemmas.Except
import Mathlib.Data.List.Forall2

namespace MPilot

variable (ctx : Ctx)

theorem cleanList_eq_ok (item : PSpec) : ∀ (xs : List Raw) (cs : List Clean),
    cleanList ctx item xs = .ok cs ↔ List.Forall₂ (fun x c => clean ctx item x = .ok c) xs cs
  | [], cs => by rw [cleanList, List.forall₂_nil_left_iff, Except.ok.injEq, eq_comm]
  | x :: xs, cs => by
    have ih := cleanList_eq_ok item xs
    rw [cleanList, List.forall₂_cons_left_iff]
    cases hx : clean ctx item x with
    | error e => simp
    | ok c =>
      cases hxs : cleanList ctx item xs with
      | error e => simp [← ih, hxs]
      | ok cs' => simp [← ih, hxs, eq_comm (a := cs)]

theorem cleanList_error (item : PSpec) : ∀ (xs : List Raw) (e : CleanErr),
    cleanList ctx item xs = .error e → ∃ x ∈ xs, clean ctx item x = .error e
  | [], e, h => by cases h
  | x :: xs, e, h => by
    rw [cleanList] at h
    cases hx : clean ctx item x with
    | error e' => simp only [hx, Except.error.injEq] at h; exact ⟨x, List.mem_cons_self, h ▸ hx⟩
    | ok c =>
      cases hxs : cleanList ctx item xs with
      | error e' =>
        simp only [hx, hxs, Except.error.injEq] at h
        exact h ▸ List.exists_mem_cons_of_exists (cleanList_error item xs e' hxs)
      | ok cs => simp only [hx, hxs] at h; cases h

theorem embedList_eq_map : ∀ cs : List Clean, Clean.embed.embedList cs = cs.map Clean.embed
  | [] => rfl
  | c :: cs => by rw [Clean.embed.embedList, embedList_eq_map cs, List.map_cons]

theorem clean_list (item : PSpec) (xs : List Raw) : clean ctx (.list item) (.list xs) = (cleanList ctx item xs).map .list := by
  unfold clean; rfl

theorem clean_list_ok {item : PSpec} {v : Raw} {w : Clean} (h : clean ctx (.list item) v = .ok w) :
    ∃ xs cs, v = .list xs ∧ w = .list cs ∧ cleanList ctx item xs = .ok cs := by
  cases v with
  | list xs =>
    rw [clean_list] at h
    obtain ⟨cs, hc, rfl⟩ := map_ok h
    exact ⟨xs, cs, rfl, rfl, hc⟩
  | _ => unfold clean at h; cases h

theorem clean_list_error {item : PSpec} {v : Raw} {e : CleanErr} (h : clean ctx (.list item) v = .error e) :
    e = "ParameterNotValid" ∨ ∃ xs, v = .list xs ∧ ∃ x ∈ xs, clean ctx item x = .error e := by
  cases v with
  | list xs =>
    rw [clean_list] at h
    cases hc : cleanList ctx item xs with
    | error e' =>
      rw [hc] at h; cases h
      exact .inr ⟨xs, rfl, cleanList_error ctx item xs e hc⟩
    | ok cs => rw [hc] at h; cases h
  | _ => unfold clean at h; cases h; exact .inl rfl

theorem clean_result_str (ot : Option PClass) (fz : Option Bool) (s : String) :
    clean ctx (.result ot fz) (.str s) =
      if (ctx.lookup s).isSome then clean ctx (.result ot fz) (.cmd s) else .error "ResultDoesNotExist" := by
  unfold clean
  dsimp only
  cases (ctx.lookup s).isSome <;> rfl

theorem clean_path_ok {m : Bool} {v : Raw} {w : Clean} (h : clean ctx (.path m) v = .ok w) :
    ∃ p, w = .str p ∧ (posixIsAbs p = true ∨ ∃ wd s, ctx.workingDir = some wd ∧ p = posixJoin wd s) ∧
      (m = true → ctx.exists_ p = true) := by
  unfold clean at h
  -- by the kind of raw value: a text, an integer, a float (`OutsideModel`), anything else (`ParameterNotValid`)
  split at h
  case h_3 => cases h
  case h_4 => cases h
  -- a text and an integer value go the same way from their text `t` on
  all_goals
    generalize pyText _ = t at h
    cases t with
    | none => cases h
    | some s =>
      cases habs : posixIsAbs s <;> simp only [habs, Bool.not_false, Bool.not_true, if_true, Bool.false_eq_true, if_false] at h
      · -- relative: joined to the working directory, which has to be there
        split at h
        · cases h
        · rename_i wd hwd
          split at h <;> cases h
          rename_i hex
          exact ⟨_, rfl, .inr ⟨wd, s, hwd, rfl⟩, by simpa using hex⟩
      · -- absolute: kept as it is
        split at h <;> cases h
        rename_i hex
        exact ⟨s, rfl, .inl habs, by simpa using hex⟩

end MPilot
