/-
Lemmas/ArrR — the array-level consequences of `CellR`: cell-wise maps, `foldArr` and `stackMap` take visibly equal inputs to visibly equal
outputs; `ExceptR` is the relation for outcomes (same error, or visibly equal results).  At the head, that the error constructors of the
bodies are no success (`eMp_ne_ok`, `eRaw_ne_ok`); at the end, that the fuzzy clamp leaves an array of fuzzy values visibly as it is
(`C06.insure_inrange`).
-/
import MPilot.Lemmas.Cells
import MPilot.Lemmas.Except
import MPilot.Lemmas.Order

namespace MPilot

theorem ite_bind_ok {β : Type} {c : Prop} [Decidable c] {e : Except Err PUnit} {f : PUnit → Except Err β} {b : β}
    (h : ((if c then e else pure PUnit.unit) >>= f) = .ok b) (he : ∀ u, e ≠ .ok u) : ¬c ∧ f PUnit.unit = .ok b := by
  by_cases hc : c
  · simp only [hc, if_true] at h
    obtain ⟨a, ha, _⟩ := bind_ok h
    exact absurd ha (he a)
  · simp only [hc, if_false] at h
    exact ⟨hc, h⟩

@[simp]
theorem eMp_ne_ok {α : Type} (cls : String) (ref : LineRef) (a : α) : (eMp cls ref : Except Err α) ≠ .ok a := by
  simp [eMp]

@[simp]
theorem eRaw_ne_ok {α : Type} (e : String) (a : α) : (eRaw e : Except Err α) ≠ .ok a := by
  simp [eRaw]

def ExceptR (x y : Except Err Arr) : Prop :=
  match x, y with
  | .ok a, .ok b => ArrR a b
  | .error e, .error e' => e = e'
  | _, _ => False

theorem ExceptR.ok {a b : Arr} (h : ArrR a b) : ExceptR (.ok a) (.ok b) := h
theorem ExceptR.err (e : Err) : ExceptR (.error e) (.error e) := rfl
theorem ExceptR.eMp (cls : String) (ref : LineRef) : ExceptR (eMp cls ref) (eMp cls ref) := rfl
theorem ExceptR.eRaw (e : String) : ExceptR (eRaw e) (eRaw e) := rfl

theorem ExceptR.ite (c : Prop) [Decidable c] {a a' b b' : Except Err Arr} (h1 : ExceptR a a') (h2 : ExceptR b b') :
    ExceptR (if c then a else b) (if c then a' else b') := by
  split <;> assumption

theorem mapCells_R {f : Cell → Cell} (hf : ∀ a a', CellR a a' → CellR (f a) (f a')) {a a' : Arr} (h : ArrR a a') :
    ArrR (a.mapCells f) (a'.mapCells f) :=
  ⟨h.1, h.2.1, List.rel_map hf h.2.2⟩

theorem fuzzyClamp_R {x y : Except Err Arr} (h : ExceptR x y) : ExceptR (fuzzyClamp x) (fuzzyClamp y) := by
  unfold fuzzyClamp
  cases x <;> cases y <;> simp only [ExceptR, Except.map] at h ⊢
  · exact h
  · exact mapCells_R (fun _ _ hc => hc.map (Cell.insure_vis _ _)) h

theorem zip_R {f : Cell → Cell → Cell} (hf : ∀ a a' b b', CellR a a' → CellR b b' → CellR (f a b) (f a' b'))
    (dt : DType) {a a' b b' : Arr} (ha : ArrR a a') (hb : ArrR b b') : ArrR (Arr.zip f dt a b) (Arr.zip f dt a' b') :=
  ⟨rfl, ha.2.1, zipWith_R hf ha.2.2 hb.2.2⟩

theorem foldArr_R {f : Cell → Cell → Cell} (hf : ∀ a a' b b', CellR a a' → CellR b b' → CellR (f a b) (f a' b'))
    (dt : DType) {a a' : Arr} {rest rest' : List Arr} (ha : ArrR a a') (hr : List.Forall₂ ArrR rest rest') :
    ArrR (foldArr f dt a rest) (foldArr f dt a' rest') :=
  have h0 : ArrR { a with dtype := dt } { a' with dtype := dt } := ⟨rfl, ha.2.1, ha.2.2⟩
  List.rel_foldl (P := ArrR) (R := ArrR) (fun _ _ h _ _ hb => zip_R hf dt h hb) h0 hr

theorem getD_R {l l' : List Cell} (h : List.Forall₂ CellR l l') (i : Nat) : CellR (l.getD i default) (l'.getD i default) := by
  induction h generalizing i with
  | nil => exact CellR.refl _
  | cons hc _ ih =>
    cases i with
    | zero => exact hc
    | succ n => exact ih n

theorem column_R {xs xs' : List Arr} (h : List.Forall₂ ArrR xs xs') (i : Nat) :
    List.Forall₂ CellR (column xs i) (column xs' i) :=
  List.rel_map (fun _ _ ha => getD_R ha.2.2 i) h

theorem any_mask_R {l l' : List Cell} (h : List.Forall₂ CellR l l') : l.any (·.mask) = l'.any (·.mask) := by
  induction h with
  | nil => rfl
  | cons hc _ ih => simp only [List.any_cons, hc.1, ih]

theorem vals_R {l l' : List Cell} (h : List.Forall₂ CellR l l') (hm : l.any (·.mask) = false) :
    l.map (·.val) = l'.map (·.val) := by
  induction h with
  | nil => rfl
  | @cons c d _ _ hc _ ih =>
    simp only [List.any_cons, Bool.or_eq_false_iff] at hm
    simp only [List.map_cons, hc.2 hm.1, ih hm.2]

theorem stackCell_R (f : List Rat → Cell) {xs xs' : List Arr} (h : List.Forall₂ ArrR xs xs') (i : Nat) :
    stackCell xs f i = stackCell xs' f i := by
  unfold stackCell
  have hc := column_R h i
  rw [← any_mask_R hc]
  by_cases hm : (column xs i).any (·.mask) = true
  · simp only [hm, if_true]
  · have hm' : (column xs i).any (·.mask) = false := by simpa using hm
    simp only [hm', Bool.false_eq_true, if_false, vals_R hc hm']

theorem stackMap_congr {f : List Rat → Cell} {a a' : Arr} {t t' : List Arr} (hs : a.shape = a'.shape)
    (hl : a.cells.length = a'.cells.length) (hc : ∀ i, stackCell (a :: t) f i = stackCell (a' :: t') f i) :
    stackMap (a :: t) f = stackMap (a' :: t') f := by
  simp only [stackMap, hs, hl, funext hc]

theorem stackMap_R (f : List Rat → Cell) {xs xs' : List Arr} (h : List.Forall₂ ArrR xs xs') :
    ArrR (stackMap xs f) (stackMap xs' f) := by
  cases h with
  | nil => exact ArrR.refl _
  | cons ha ht => rw [stackMap_congr ha.2.1 ha.2.2.length_eq (stackCell_R f (.cons ha ht))]; exact ArrR.refl _

end MPilot

namespace MPilot.C06

/-- an array whose present cells hold fuzzy values is visibly unchanged by `insure_fuzzy` -/
theorem insure_inrange (a : Arr) (h : ∀ c ∈ a.cells, c.mask = false → -1 ≤ c.val ∧ c.val ≤ 1) : ArrR (a.insure (-1) 1) a := by
  refine (arrR_iff_visEq _ _).mpr ⟨rfl, rfl, ?_⟩
  rw [Arr.vis_insure]
  exact Arr.vis_map_self fun c hc hm => clampHiLo_of_mem (h c hc hm).1 (h c hc hm).2

end MPilot.C06
