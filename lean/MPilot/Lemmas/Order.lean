/-
Lemmas/Order — the model's minimum, maximum and clamp are the lattice operations of `Rat`.  Whatever a proof needs to know about
their order (monotone, idempotent, commutative, identity on the interval) is then a Mathlib lemma about `min` and `max`, and no proof
has to open the `if`s again.
-/
import MPilot.Model.Eems
import Mathlib.Algebra.Order.Field.Rat

namespace MPilot

theorem ratMin_eq_min (a b : Rat) : ratMin a b = min a b := by
  unfold ratMin
  rcases lt_or_ge b a with h | h
  · rw [if_pos h, min_eq_right h.le]
  · rw [if_neg (not_lt.mpr h), min_eq_left h]

theorem ratMax_eq_max (a b : Rat) : ratMax a b = max a b := by
  unfold ratMax
  rcases lt_or_ge a b with h | h
  · rw [if_pos h, max_eq_right h.le]
  · rw [if_neg (not_lt.mpr h), max_eq_left h]

/-! `minL` and `maxL` are core's `List.min?` and `List.max?`: the body of their loops, `fun m y => if y < m then y else m`, is `ratMin`
unfolded (`ratMax` likewise), and `List.min?` is the same loop over `min` -/

theorem minL_eq_min? (l : List Rat) : minL l = l.min? := by
  cases l with
  | nil => rfl
  | cons x xs => exact congrArg (fun g => some (xs.foldl g x)) (funext₂ ratMin_eq_min)

theorem maxL_eq_max? (l : List Rat) : maxL l = l.max? := by
  cases l with
  | nil => rfl
  | cons x xs => exact congrArg (fun g => some (xs.foldl g x)) (funext₂ ratMax_eq_max)

theorem minL_eq_some_iff {l : List Rat} {m : Rat} : minL l = some m ↔ m ∈ l ∧ ∀ x ∈ l, m ≤ x :=
  minL_eq_min? l ▸ List.min?_eq_some_iff

theorem maxL_eq_some_iff {l : List Rat} {m : Rat} : maxL l = some m ↔ m ∈ l ∧ ∀ x ∈ l, x ≤ m :=
  maxL_eq_max? l ▸ List.max?_eq_some_iff

theorem ratMin_choice (a b : Rat) : ratMin a b = a ∨ ratMin a b = b := ratMin_eq_min a b ▸ min_choice a b

theorem ratMax_choice (a b : Rat) : ratMax a b = a ∨ ratMax a b = b := ratMax_eq_max a b ▸ max_choice a b

theorem ratMin_comm (a b : Rat) : ratMin a b = ratMin b a := by simp only [ratMin_eq_min, min_comm]
theorem ratMin_assoc (a b c : Rat) : ratMin (ratMin a b) c = ratMin a (ratMin b c) := by simp only [ratMin_eq_min, min_assoc]
theorem ratMax_comm (a b : Rat) : ratMax a b = ratMax b a := by simp only [ratMax_eq_max, max_comm]
theorem ratMax_assoc (a b c : Rat) : ratMax (ratMax a b) c = ratMax a (ratMax b c) := by simp only [ratMax_eq_max, max_assoc]

/-- "clamp from above, then from below" needs no `lo ≤ hi`: for `hi < lo` both sides are `lo` -/
theorem clampHiLo_eq (lo hi x : Rat) : clampHiLo lo hi x = max lo (min hi x) := by
  -- the two `if`s of the clamp are those of `ratMin` and `ratMax`
  show ratMax (ratMin x hi) lo = _
  rw [ratMin_eq_min, ratMax_eq_max, max_comm, min_comm]

theorem clampHiLo_mono (lo hi : Rat) {x y : Rat} (h : x ≤ y) : clampHiLo lo hi x ≤ clampHiLo lo hi y := by
  rw [clampHiLo_eq, clampHiLo_eq]
  exact max_le_max le_rfl (min_le_min le_rfl h)

theorem clampHiLo_of_mem {lo hi x : Rat} (h1 : lo ≤ x) (h2 : x ≤ hi) : clampHiLo lo hi x = x := by
  rw [clampHiLo_eq, min_eq_right h2, max_eq_right h1]

theorem clampHiLo_mem {lo hi : Rat} (h : lo ≤ hi) (x : Rat) : lo ≤ clampHiLo lo hi x ∧ clampHiLo lo hi x ≤ hi := by
  rw [clampHiLo_eq]
  exact ⟨le_max_left _ _, max_le h (min_le_left _ _)⟩

end MPilot
