/-
Lemmas/Cells — what is visible of a cell (`Cell.vis`) after each numpy.ma primitive of the model, as a function of what is visible of the
operands.  The "visibly equal" relations `CellR` / `ArrR` are equality of what is visible (`cellR_iff_vis`, `arrR_iff_visEq`), so an
operation given by what it does to `vis` respects them (`CellR.map`); the statistics read `vis` only (`Arr.valid_eq_vis`).

Names, here and in the files above: a lemma `f_R` says that `f` takes visibly equal arguments (`CellR`, `ArrR`; `ExceptR` of Lemmas/ArrR for
outcomes) to visibly equal - or equal - results.
-/
import MPilot.Model.Eems
import Mathlib.Data.List.Forall2

namespace MPilot

/-- visibly equal cells -/
def CellR (c d : Cell) : Prop := c.mask = d.mask ∧ (c.mask = false → c.val = d.val)

theorem CellR.refl (c : Cell) : CellR c c := ⟨rfl, fun _ => rfl⟩

theorem cellR_iff_vis (c d : Cell) : CellR c d ↔ c.vis = d.vis := by
  unfold CellR Cell.vis
  cases hc : c.mask <;> cases hd : d.mask <;> simp

def ArrR (a b : Arr) : Prop := a.dtype = b.dtype ∧ a.shape = b.shape ∧ List.Forall₂ CellR a.cells b.cells

theorem ArrR.refl (a : Arr) : ArrR a a := ⟨rfl, rfl, List.forall₂_same.mpr fun c _ => CellR.refl c⟩

theorem forall2_cellR_iff (l l' : List Cell) : List.Forall₂ CellR l l' ↔ l.map Cell.vis = l'.map Cell.vis := by
  induction l generalizing l' with
  | nil => cases l' <;> simp
  | cons c l ih =>
    cases l' with
    | nil => simp
    | cons d l' => simp [ih, cellR_iff_vis]

theorem arrR_iff_visEq (a b : Arr) : ArrR a b ↔ VisEq a b := by
  unfold ArrR VisEq Arr.vis
  rw [forall2_cellR_iff]

theorem ArrR.trans {a b c : Arr} (h1 : ArrR a b) (h2 : ArrR b c) : ArrR a c := by
  rw [arrR_iff_visEq] at *
  exact ⟨h1.1.trans h2.1, h1.2.1.trans h2.2.1, h1.2.2.trans h2.2.2⟩

namespace Cell

theorem vis_eq_iff (c : Cell) (m : Bool) (v : Rat) : c.vis = (if m then none else some v) ↔ c.mask = m ∧ (c.mask = false → c.val = v) :=
  (cellR_iff_vis c ⟨v, m⟩).symm

theorem sc_mask (f : Rat → Rat) (a : Cell) : (Cell.sc f a).mask = a.mask := rfl
theorem insure_mask (lo hi : Rat) (a : Cell) : (Cell.insure lo hi a).mask = a.mask := by
  unfold Cell.insure; cases a.mask <;> rfl

theorem sc_vis (f : Rat → Rat) (c : Cell) : (Cell.sc f c).vis = c.vis.map f := by
  rcases c with ⟨v, _ | _⟩ <;> rfl
theorem valmap_vis (f : Rat → Rat) (c : Cell) : (⟨f c.val, c.mask⟩ : Cell).vis = c.vis.map f := by
  rcases c with ⟨v, _ | _⟩ <;> rfl
theorem bin_vis (g : Rat → Rat → Rat) (a b : Cell) : (Cell.bin g a b).vis = a.vis.bind fun x => b.vis.map (g x) := by
  rcases a with ⟨v, _ | _⟩ <;> rcases b with ⟨w, _ | _⟩ <;> rfl
theorem insure_vis (lo hi : Rat) (c : Cell) : (Cell.insure lo hi c).vis = c.vis.map (clampHiLo lo hi) := by
  rcases c with ⟨v, _ | _⟩ <;> rfl
theorem divSc_vis (d : Rat) (c : Cell) : (Cell.divSc d c).vis = if d == 0 then none else c.vis.map (· / d) := by
  rcases c with ⟨v, _ | _⟩ <;> cases h : d == 0 <;> simp [Cell.divSc, Cell.vis, h]
theorem div_vis (a b : Cell) :
    (Cell.div a b).vis = a.vis.bind fun x => b.vis.bind fun y => if y == 0 then none else some (x / y) := by
  rcases a with ⟨v, _ | _⟩ <;> rcases b with ⟨w, _ | _⟩ <;> try rfl
  by_cases h : w = 0 <;> simp [Cell.div, Cell.vis, h]

end Cell

theorem CellR.map {f : Cell → Cell} {φ : Option Rat → Option Rat} (hf : ∀ c, (f c).vis = φ c.vis) {a a' : Cell} (h : CellR a a') :
    CellR (f a) (f a') := by
  rw [cellR_iff_vis] at *; rw [hf, hf, h]

theorem divSc_R (d : Rat) {a a' : Cell} (ha : CellR a a') : CellR (Cell.divSc d a) (Cell.divSc d a') :=
  ha.map (φ := fun o => if d == 0 then none else o.map (· / d)) (Cell.divSc_vis d)

theorem zipWith_R {f : Cell → Cell → Cell} (hf : ∀ a a' b b', CellR a a' → CellR b b' → CellR (f a b) (f a' b'))
    {la la' lb lb' : List Cell} (ha : List.Forall₂ CellR la la') (hb : List.Forall₂ CellR lb lb') :
    List.Forall₂ CellR (List.zipWith f la lb) (List.zipWith f la' lb') := by
  induction ha generalizing lb lb' with
  | nil => simp
  | cons hc _ ih =>
    cases hb with
    | nil => simp
    | cons hd hb' => exact .cons (hf _ _ _ _ hc hd) (ih hb')

theorem Arr.vis_mapCells {f : Cell → Cell} {F : Rat → Rat} (hf : ∀ c, (f c).vis = c.vis.map F) (a : Arr) :
    (a.mapCells f).vis = a.vis.map (Option.map F) := by
  simp only [Arr.vis, Arr.mapCells, List.map_map]; exact List.map_congr_left fun c _ => hf c

theorem Arr.vis_insure (lo hi : Rat) (a : Arr) : (a.insure lo hi).vis = a.vis.map (Option.map (clampHiLo lo hi)) :=
  Arr.vis_mapCells (Cell.insure_vis lo hi) a

/-- `vis` under a map of the present values, written out cell by cell: the form in which the cell theorems state a result -/
theorem Arr.vis_map (F : Rat → Rat) (a : Arr) :
    a.vis.map (Option.map F) = a.cells.map fun c => if c.mask then none else some (F c.val) := by
  rw [Arr.vis, List.map_map]
  -- the right side at `c` is `Cell.vis ⟨F c.val, c.mask⟩` unfolded
  exact List.map_congr_left fun c _ => (Cell.valmap_vis F c).symm

/-- maps that agree on the present values do the same to `vis` -/
theorem Arr.vis_map_congr {a : Arr} {G F : Rat → Rat} (h : ∀ c ∈ a.cells, c.mask = false → G c.val = F c.val) :
    a.vis.map (Option.map G) = a.vis.map (Option.map F) := by
  rw [Arr.vis, List.map_map, List.map_map]
  refine List.map_congr_left fun c hc => ?_
  rcases c with ⟨v, _ | _⟩
  · exact congrArg some (h _ hc rfl)
  · rfl

theorem Arr.vis_map_self {a : Arr} {G : Rat → Rat} (h : ∀ c ∈ a.cells, c.mask = false → G c.val = c.val) :
    a.vis.map (Option.map G) = a.vis := by
  rw [Arr.vis_map_congr (F := id) h, Option.map_id, List.map_id]

theorem Arr.valid_eq_vis (a : Arr) : a.valid = a.vis.filterMap id := by
  unfold Arr.valid Arr.vis
  induction a.cells with
  | nil => rfl
  | cons c l ih => rcases c with ⟨v, _ | _⟩ <;> [exact congrArg (v :: ·) ih; exact ih]

theorem valid_ArrR {a a' : Arr} (h : ArrR a a') : a.valid = a'.valid := by
  rw [Arr.valid_eq_vis, Arr.valid_eq_vis, ((arrR_iff_visEq a a').mp h).2.2]

end MPilot
