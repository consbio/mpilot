/-
Lemmas/MaskSup — "missing stays missing" (C03 `mask_superset`): the result of a binary primitive, of a scalar operation and of the loops
built from them (`foldArr`, `stackMap`) is missing wherever an operand is; the other unary primitives are covered by `UnOp.mask_ap`
(Lemmas/PlanProps), which gives their mask exactly.  And the other direction for cell maps that each hide all cells or none
(`ExactOrAll.step`, C03 `single_input_mask_exact`).
-/
import MPilot.Model.Eems
import Mathlib.Data.List.Forall2

namespace MPilot

/-- in all three the first argument is (a cell, the cells, the array of) an input, the second of the output: "where the input is missing, so is the output" -/
def MImp (c o : Cell) : Prop := c.mask = true → o.mask = true

def LSup (l out : List Cell) : Prop := List.Forall₂ MImp l out

def Sup (a out : Arr) : Prop := LSup a.cells out.cells

theorem MImp.refl (c : Cell) : MImp c c := fun h => h
theorem MImp.trans {a b c : Cell} (h1 : MImp a b) (h2 : MImp b c) : MImp a c := fun h => h2 (h1 h)

theorem LSup.refl (l : List Cell) : LSup l l := List.forall₂_same.mpr fun c _ => MImp.refl c

theorem LSup.trans {a b c : List Cell} (h1 : LSup a b) (h2 : LSup b c) : LSup a c := by
  induction h1 generalizing c with
  | nil => cases h2; exact .nil
  | cons hc _ ih =>
    cases h2 with
    | cons hd h2' => exact .cons (MImp.trans hc hd) (ih h2')

theorem LSup.length {l o : List Cell} (h : LSup l o) : l.length = o.length := List.Forall₂.length_eq h

theorem Sup.refl (a : Arr) : Sup a a := LSup.refl _
theorem Sup.trans {a b c : Arr} (h1 : Sup a b) (h2 : Sup b c) : Sup a c := LSup.trans h1 h2

theorem bin_sup_left (g : Rat → Rat → Rat) (a b : Cell) : MImp a (Cell.bin g a b) := by
  intro h; simp [Cell.bin, h]
theorem bin_sup_right (g : Rat → Rat → Rat) (a b : Cell) : MImp b (Cell.bin g a b) := by
  intro h; simp [Cell.bin, h]
theorem sc_sup (f : Rat → Rat) (a : Cell) : MImp a (Cell.sc f a) := by
  intro h; simp [Cell.sc, h]
theorem div_sup_left (a b : Cell) : MImp a (Cell.div a b) := by
  intro h; simp [Cell.div, h]
theorem div_sup_right (a b : Cell) : MImp b (Cell.div a b) := by
  intro h; simp [Cell.div, h]

theorem map_sup {f : Cell → Cell} (hf : ∀ c, MImp c (f c)) (l : List Cell) : LSup l (l.map f) :=
  List.forall₂_map_right_iff.mpr (List.forall₂_same.mpr fun c _ => hf c)

theorem LSup.map {f : Cell → Cell} (hf : ∀ c, MImp c (f c)) {l o : List Cell} (h : LSup l o) : LSup l (o.map f) :=
  LSup.trans h (map_sup hf o)

theorem zipWith_sup {f : Cell → Cell → Cell} (hl : ∀ a b, MImp a (f a b)) (hr : ∀ a b, MImp b (f a b)) :
    ∀ (l1 l2 : List Cell), l1.length = l2.length → LSup l1 (List.zipWith f l1 l2) ∧ LSup l2 (List.zipWith f l1 l2)
  | [], [], _ => ⟨.nil, .nil⟩
  | a :: l1, b :: l2, h =>
      let ⟨h1, h2⟩ := zipWith_sup hl hr l1 l2 (by simpa using h)
      ⟨.cons (hl a b) h1, .cons (hr a b) h2⟩
  | [], _ :: _, h => by simp at h
  | _ :: _, [], h => by simp at h

theorem mapCells_sup {f : Cell → Cell} (hf : ∀ c, MImp c (f c)) (a : Arr) : Sup a (a.mapCells f) := map_sup hf _

theorem foldl_zip_sup {f : Cell → Cell → Cell} (hl : ∀ a b, MImp a (f a b)) (hr : ∀ a b, MImp b (f a b)) (dt : DType) (n : Nat) :
    ∀ (rest : List Arr) (acc : Arr), acc.cells.length = n → (∀ a ∈ rest, a.cells.length = n) →
      Sup acc (rest.foldl (fun acc a => Arr.zip f dt acc a) acc) ∧
      ∀ a ∈ rest, Sup a (rest.foldl (fun acc a => Arr.zip f dt acc a) acc)
  | [], acc, _, _ => ⟨Sup.refl _, by simp⟩
  | b :: rest, acc, hacc, hrest => by
      have hb : b.cells.length = n := hrest b (List.mem_cons_self ..)
      have hz : (Arr.zip f dt acc b).cells.length = n := by simp [Arr.zip, hacc, hb]
      obtain ⟨h1, h2⟩ := foldl_zip_sup hl hr dt n rest (Arr.zip f dt acc b) hz (fun a ha => hrest a (List.mem_cons_of_mem _ ha))
      simp only [List.foldl_cons]
      obtain ⟨hza, hzb⟩ : Sup acc (Arr.zip f dt acc b) ∧ Sup b (Arr.zip f dt acc b) := zipWith_sup hl hr _ _ (by rw [hacc, hb])
      exact ⟨Sup.trans hza h1, List.forall_mem_cons.mpr ⟨Sup.trans hzb h1, h2⟩⟩

theorem foldArr_sup {f : Cell → Cell → Cell} (hl : ∀ a b, MImp a (f a b)) (hr : ∀ a b, MImp b (f a b)) (dt : DType)
    (first : Arr) (rest : List Arr) (n : Nat) (h : ∀ a ∈ first :: rest, a.cells.length = n) :
    ∀ a ∈ first :: rest, Sup a (foldArr f dt first rest) := by
  unfold foldArr
  obtain ⟨h1, h2⟩ := foldl_zip_sup hl hr dt n rest { first with dtype := dt } (h first (List.mem_cons_self ..))
    (fun a ha => h a (List.mem_cons_of_mem _ ha))
  exact List.forall_mem_cons.mpr ⟨h1, h2⟩

theorem stackMap_sup (f : List Rat → Cell) (a0 : Arr) (rest : List Arr) (h : ∀ a ∈ a0 :: rest, a.cells.length = a0.cells.length) :
    ∀ a ∈ a0 :: rest, Sup a (stackMap (a0 :: rest) f) := by
  -- a masked cell `i` of input `a` is a masked member of column `i`, so the column's `any` is true and `stackCell` returns a missing cell
  intro a ha
  simp only [stackMap, Sup, LSup]
  rw [List.forall₂_iff_get]
  refine ⟨by simp [h a ha], ?_⟩
  intro i h1 h2 hm
  simp only [List.get_eq_getElem, List.getElem_map, List.getElem_range]
  unfold stackCell
  have : (column (a0 :: rest) i).any (·.mask) = true := by
    rw [List.any_eq_true]
    refine ⟨a.cells.getD i default, ?_, ?_⟩
    · unfold column; exact List.mem_map.mpr ⟨a, ha, rfl⟩
    · rw [← List.getElem_eq_getD (h := h1)]; exact hm
  simp [this]

/-- the two ways out of `ExactOrAll`: the output mask is the input mask; every output cell is missing -/
def LEq (l out : List Cell) : Prop := List.Forall₂ (fun c o => o.mask = c.mask) l out

def LAll (l out : List Cell) : Prop := List.Forall₂ (fun _ o => o.mask = true) l out

/-- the result is missing exactly where the input is - or the mapping is undefined for the whole array and everything is missing -/
def ExactOrAll (a out : Arr) : Prop := LEq a.cells out.cells ∨ LAll a.cells out.cells

theorem ExactOrAll.step {f : Cell → Cell} {m : Bool} (hf : ∀ c, (f c).mask = (c.mask || m)) {a o : Arr} (h : ExactOrAll a o) :
    ExactOrAll a (o.mapCells f) := by
  rcases h with h | h
  · cases m with
    | false => exact .inl (List.forall₂_map_right_iff.mpr (h.imp fun _ _ e => by rw [hf, Bool.or_false, e]))
    | true => exact .inr (List.forall₂_map_right_iff.mpr (h.imp fun _ _ _ => by rw [hf, Bool.or_true]))
  · exact .inr (List.forall₂_map_right_iff.mpr (h.imp fun _ _ e => by rw [hf, e]; rfl))

end MPilot
