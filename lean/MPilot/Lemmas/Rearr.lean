/-
Lemmas/Rearr — rearranging the cells of arrays (a common permutation of the positions, and/or a new shape) commutes with every
numpy.ma primitive of the model.  Used by C05 (`rearr_equivariant`).
-/
import MPilot.Lemmas.Perm
import MPilot.Lemmas.List

namespace MPilot

/-- the list read at the positions `σ` (in that order; positions outside the list are skipped) -/
def permute {α : Type} : List Nat → List α → List α
  | [], _ => []
  | i :: σ, l => match l[i]? with
    | some x => x :: permute σ l
    | none => permute σ l

/-- the cells read at the positions `σ`, under the shape `s`; `s` is not tied to the number of cells (nor is `shape` to `cells` in `Arr`) -/
def Arr.rearr (s : List Nat) (σ : List Nat) (a : Arr) : Arr := { dtype := a.dtype, shape := s, cells := permute σ a.cells }

section
variable {α β γ : Type}

theorem permute_cons_lt (i : Nat) (σ : List Nat) (l : List α) (h : i < l.length) : permute (i :: σ) l = l[i] :: permute σ l := by
  rw [permute, List.getElem?_eq_getElem h]

theorem permute_eq_filterMap (σ : List Nat) (l : List α) : permute σ l = σ.filterMap (fun i => l[i]?) := by
  induction σ with
  | nil => rfl
  | cons i σ ih =>
    rw [permute, List.filterMap_cons]
    cases l[i]? <;> simp [ih]

theorem permute_map (σ : List Nat) (f : α → β) (l : List α) : permute σ (l.map f) = (permute σ l).map f := by
  simp only [permute_eq_filterMap, List.getElem?_map, List.map_filterMap]

theorem permute_zipWith (σ : List Nat) (f : α → β → γ) (a : List α) (b : List β) (h : ∀ i ∈ σ, i < a.length ∧ i < b.length) :
    permute σ (List.zipWith f a b) = List.zipWith f (permute σ a) (permute σ b) := by
  induction σ with
  | nil => rfl
  | cons i σ ih =>
    have hi := h i (List.mem_cons_self ..)
    have ih' := ih (fun j hj => h j (List.mem_cons_of_mem _ hj))
    have hz : i < (List.zipWith f a b).length := by simp [hi.1, hi.2]
    rw [permute_cons_lt i σ _ hz, permute_cons_lt i σ a hi.1, permute_cons_lt i σ b hi.2, List.zipWith_cons_cons, ih']
    simp

/-- where every position of `σ` lies inside the list, `permute` reads them off one by one -/
theorem permute_eq_map [Inhabited α] (σ : List Nat) (l : List α) (h : ∀ i ∈ σ, i < l.length) : permute σ l = σ.map (l.getD · default) := by
  induction σ with
  | nil => rfl
  | cons i σ ih =>
    have hi := h i (List.mem_cons_self ..)
    rw [permute_cons_lt i σ l hi, ih fun j hj => h j (List.mem_cons_of_mem _ hj), List.map_cons, List.getD_eq_getElem?_getD,
      List.getElem?_eq_getElem hi, Option.getD_some]

theorem permute_perm_self (σ : List Nat) (l : List α) (h : σ.Perm (List.range l.length)) : (permute σ l).Perm l := by
  rw [permute_eq_filterMap]
  have := List.Perm.filterMap (fun i => l[i]?) h
  rwa [filterMap_range] at this

end

theorem perm_range_lt {σ : List Nat} {n : Nat} (h : σ.Perm (List.range n)) : ∀ i ∈ σ, i < n := by
  intro i hi; exact List.mem_range.mp (h.mem_iff.mp hi)

theorem perm_range_length {σ : List Nat} {n : Nat} (h : σ.Perm (List.range n)) : σ.length = n := by
  rw [h.length_eq, List.length_range]

theorem rearr_valid_perm_self (s σ : List Nat) (a : Arr) (h : σ.Perm (List.range a.cells.length)) : (a.rearr s σ).valid.Perm a.valid := by
  unfold Arr.valid Arr.rearr
  exact ((permute_perm_self σ a.cells h).filter _).map _

theorem rearr_mapCells (s σ : List Nat) (f : Cell → Cell) (a : Arr) : (a.mapCells f).rearr s σ = (a.rearr s σ).mapCells f := by
  simp only [Arr.rearr, Arr.mapCells, permute_map]

theorem rearr_zip (s σ : List Nat) (f : Cell → Cell → Cell) (dt : DType) (a b : Arr) (n : Nat) (hσ : ∀ i ∈ σ, i < n)
    (ha : a.cells.length = n) (hb : b.cells.length = n) :
    (Arr.zip f dt a b).rearr s σ = Arr.zip f dt (a.rearr s σ) (b.rearr s σ) := by
  simp only [Arr.rearr, Arr.zip]
  rw [permute_zipWith σ f a.cells b.cells (fun i hi => ⟨by rw [ha]; exact hσ i hi, by rw [hb]; exact hσ i hi⟩)]

theorem rearr_length (s σ : List Nat) (a : Arr) (n : Nat) (hσ : σ.Perm (List.range n)) (ha : a.cells.length = n) :
    (a.rearr s σ).cells.length = n := by
  show (permute σ a.cells).length = n
  rw [permute_eq_map σ a.cells (fun i hi => by rw [ha]; exact perm_range_lt hσ i hi), List.length_map, perm_range_length hσ]

theorem rearr_foldArr (s σ : List Nat) (f : Cell → Cell → Cell) (dt : DType) (n : Nat) (hσ : σ.Perm (List.range n))
    (a : Arr) (rest : List Arr) (h : ∀ b ∈ a :: rest, b.cells.length = n) :
    (foldArr f dt a rest).rearr s σ = foldArr f dt (a.rearr s σ) (rest.map (Arr.rearr s σ)) := by
  -- the two loops run in step: the accumulator keeps `n` cells, which is what `rearr_zip` asks for
  have hr : List.Forall₂ (fun b b' => b.cells.length = n ∧ b' = b.rearr s σ) rest (rest.map (Arr.rearr s σ)) :=
    List.forall₂_map_right_iff.mpr (List.forall₂_same.mpr fun b hb => ⟨h b (List.mem_cons_of_mem _ hb), rfl⟩)
  have h0 : ({ a with dtype := dt } : Arr).cells.length = n ∧ { a.rearr s σ with dtype := dt } = ({ a with dtype := dt } : Arr).rearr s σ :=
    ⟨h a List.mem_cons_self, rfl⟩
  exact (List.rel_foldl (P := fun (r r' : Arr) => r.cells.length = n ∧ r' = r.rearr s σ) (fun acc _ ⟨hacc, e⟩ b _ ⟨hb, e'⟩ =>
    ⟨by simp [Arr.zip, hacc, hb], by rw [e, e', rearr_zip s σ f dt acc b n (perm_range_lt hσ) hacc hb]⟩) h0 hr).2.symm

/-- `hs` is needed: the new common shape `s` would repair inputs of differing shapes, which `validateShapes` rejects -/
theorem validateShapes_rearr (ref : LineRef) (s σ : List Nat) (xs : List Arr) (hs : SameShape xs) :
    validateShapes ref (xs.map (Arr.rearr s σ)) = validateShapes ref xs := by
  have hs' : SameShape (xs.map (Arr.rearr s σ)) := fun x hx y hy => by
    obtain ⟨_, _, rfl⟩ := List.mem_map.mp hx
    obtain ⟨_, _, rfl⟩ := List.mem_map.mp hy
    rfl
  rw [validateShapes_eq, validateShapes_eq, if_pos hs, if_pos hs']
  exact if_congr List.map_eq_nil_iff rfl rfl

theorem column_rearr (s σ : List Nat) (n : Nat) (hσ : ∀ i ∈ σ, i < n) (xs : List Arr) (hn : ∀ a ∈ xs, a.cells.length = n) (j : Nat) (i : Nat)
    (hj : σ[j]? = some i) : column (xs.map (Arr.rearr s σ)) j = column xs i := by
  unfold column
  rw [List.map_map]
  apply List.map_congr_left
  intro a ha
  show (permute σ a.cells).getD j default = a.cells.getD i default
  rw [permute_eq_map σ a.cells (fun k hk => by rw [hn a ha]; exact hσ k hk), List.getD_eq_getElem?_getD, List.getElem?_map, hj]
  rfl

theorem rearr_stackMap (s σ : List Nat) (n : Nat) (hσ : σ.Perm (List.range n)) (f : List Rat → Cell) (a : Arr) (t : List Arr)
    (hn : ∀ b ∈ a :: t, b.cells.length = n) :
    (stackMap (a :: t) f).rearr s σ = stackMap ((a :: t).map (Arr.rearr s σ)) f := by
  have hlt := perm_range_lt hσ
  have hlen := perm_range_length hσ
  have ha : a.cells.length = n := hn a (List.mem_cons_self ..)
  have ha' : (permute σ a.cells).length = n := rearr_length s σ a n hσ ha
  -- `range n` read at the positions `σ` is `σ`
  have hrange : permute σ (List.range n) = σ := by
    rw [permute_eq_map σ _ (by simpa using hlt)]
    exact (List.map_congr_left fun i hi => by rw [List.getD_eq_getElem?_getD, List.getElem?_range (hlt i hi)]; rfl).trans (List.map_id σ)
  simp only [List.map_cons, stackMap, Arr.rearr]
  congr 1
  -- left: the stack cells at the positions `σ`; right: the stack cells of the rearranged inputs at `0 .. n - 1`
  rw [ha, ha', permute_map, hrange]
  -- both sides have `n` cells, and cell `j` of the rearranged stack is the stack cell at position `σ[j]`: the columns agree (`column_rearr`)
  apply List.ext_getElem
  · simp [hlen]
  · intro j h1 h2
    simp only [List.getElem_map, List.getElem_range]
    have hjl : j < σ.length := by simpa using h1
    have hj : σ[j]? = some (σ[j]'hjl) := List.getElem?_eq_getElem hjl
    have hc := column_rearr s σ n hlt (a :: t) hn j (σ[j]'hjl) hj
    simp only [List.map_cons, Arr.rearr] at hc
    unfold stackCell
    rw [hc]

theorem except_map_err (e : Err) (f : Arr → Arr) : (Except.error e : Except Err Arr).map f = .error e := rfl

end MPilot
