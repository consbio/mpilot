/-
Lemmas/Lex — how the lexer model reads the spellings of single tokens and the layout between them: the token stream `lexS` and its step
equations, then one section per kind of token.  Quoted strings are in Lemmas/LexString.
-/
import MPilot.Lemmas.Scan
import MPilot.Lemmas.List
import Mathlib.Data.List.DropRight
import Mathlib.Algebra.Order.Field.Rat

namespace MPilot.Lex

/-- `r` is empty or starts with a character that fails `p`: the third premise of `span_append_stop` (Lemmas/List), which is written unfolded -/
def StopsAt (p : Char → Bool) (r : List Char) : Prop := ∀ c r', r = c :: r' → p c = false

theorem stopsAt_nil (p : Char → Bool) : StopsAt p [] := by intro c r' h; cases h

theorem stopsAt_cons {p : Char → Bool} {c : Char} {r : List Char} (h : p c = false) : StopsAt p (c :: r) := by
  intro d r' e; injection e with e1 _; subst e1; exact h

theorem stopsAt_weaken {p q : Char → Bool} {r : List Char} (h : StopsAt p r) (hpq : ∀ c, p c = false → q c = false) : StopsAt q r :=
  fun c r' e => hpq c (h c r' e)

theorem spanDigits_append (ds rest : List Char) (hd : ∀ c ∈ ds, isDig c = true) (hs : StopsAt isDig rest) :
    spanDigits (ds ++ rest) = (ds, rest) := span_append_stop isDig ds rest hd hs

/-! ### every scanning step consumes at least one character -/

theorem scanOne_tok_shrink {c : Char} {r : List Char} {line : Nat} {t : Tok} {rest : List Char} {line' : Nat}
    (h : scanOne (c :: r) line = .tok t rest line') : rest.length ≤ r.length := by
  obtain ⟨_, _, ha, _⟩ := step_tok h
  exact Nat.le_of_lt_succ ha.lt

theorem scanOne_skip_shrink {c : Char} {r : List Char} {line : Nat} {rest : List Char} {line' : Nat}
    (h : scanOne (c :: r) line = .skip rest line') : rest.length ≤ r.length := by
  obtain ⟨_, ha, _⟩ := step_skip h
  exact Nat.le_of_lt_succ ha.lt

/-- **the lexer's fuel is adequate**: with more fuel than characters the token stream does not depend on the fuel - no token is ever lost
to the recursion bound (`lex` runs with `length + 1`) -/
theorem lexAll_fuel : ∀ (n : Nat) (cs : List Char) (f f' : Nat) (line : Nat), cs.length ≤ n → cs.length < f → cs.length < f' →
    lexAll f cs line = lexAll f' cs line := by
  intro n cs f f' line hn hf hf'
  clear hn n
  fun_induction lexAll f cs line generalizing f' with
  | case1 => cases hf
  | case2 => cases f' <;> rfl
  | case3 fuel c r line hb ih =>
    obtain ⟨f', rfl⟩ := Nat.exists_eq_succ_of_ne_zero (Nat.ne_zero_of_lt hf')
    rw [lexAll, if_pos hb]
    exact ih f' (Nat.lt_of_succ_lt_succ hf) (Nat.lt_of_succ_lt_succ hf')
  | case4 fuel c r line hb t rest line' hs ih =>
    obtain ⟨f', rfl⟩ := Nat.exists_eq_succ_of_ne_zero (Nat.ne_zero_of_lt hf')
    have := scanOne_tok_shrink hs
    simp only [List.length_cons] at hf hf'
    rw [lexAll, if_neg hb, hs, ih f' (by omega) (by omega)]
  | case5 fuel c r line hb rest line' hs ih =>
    obtain ⟨f', rfl⟩ := Nat.exists_eq_succ_of_ne_zero (Nat.ne_zero_of_lt hf')
    have := scanOne_skip_shrink hs
    simp only [List.length_cons] at hf hf'
    rw [lexAll, if_neg hb, hs, ih f' (by omega) (by omega)]
  | case6 fuel c r line hb t hs =>
    obtain ⟨f', rfl⟩ := Nat.exists_eq_succ_of_ne_zero (Nat.ne_zero_of_lt hf')
    rw [lexAll, if_neg hb, hs]

/-- the token stream of a text (any sufficient fuel) -/
def lexS (cs : List Char) (line : Nat) : List Tok := lexAll (cs.length + 1) cs line

theorem lexAll_eq_lexS (f : Nat) (cs : List Char) (line : Nat) (h : cs.length < f) : lexAll f cs line = lexS cs line :=
  lexAll_fuel cs.length cs f _ line (Nat.le_refl _) h (Nat.lt_succ_self _)

theorem lex_eq_lexS (src : String) : lex src = lexS src.toList 1 := by
  unfold lex lexS; rw [String.length_toList]

/-! ### step equations of the token stream -/

theorem lexS_nil (line : Nat) : lexS [] line = [] := by simp [lexS, lexAll]

theorem lexS_blank (c : Char) (r : List Char) (line : Nat) (h : c = ' ' ∨ c = '\t') : lexS (c :: r) line = lexS r line := by
  unfold lexS
  rw [List.length_cons, lexAll]
  have : (c == ' ' || c == '\t') = true := by rcases h with rfl | rfl <;> decide
  rw [if_pos this]

theorem lexS_cons (c : Char) (r : List Char) (line : Nat) (hc : c ≠ ' ' ∧ c ≠ '\t') :
    lexS (c :: r) line = match scanOne (c :: r) line with
      | .tok t rest line' => t :: lexS rest line'
      | .skip rest line' => lexS rest line'
      | .stop t => [t] := by
  have hb : ¬ ((c == ' ' || c == '\t') = true) := by simp [hc.1, hc.2]
  unfold lexS
  rw [List.length_cons, lexAll, if_neg hb]
  cases hs : scanOne (c :: r) line with
  | tok t rest line' => exact congrArg (t :: ·) (lexAll_eq_lexS _ _ _ (Nat.lt_succ_of_le (scanOne_tok_shrink hs)))
  | skip rest line' => exact lexAll_eq_lexS _ _ _ (Nat.lt_succ_of_le (scanOne_skip_shrink hs))
  | stop t => rfl

theorem lexS_tok {c : Char} {r : List Char} {line : Nat} {t : Tok} {rest : List Char} {line' : Nat}
    (hc : c ≠ ' ' ∧ c ≠ '\t') (h : scanOne (c :: r) line = .tok t rest line') : lexS (c :: r) line = t :: lexS rest line' := by
  rw [lexS_cons c r line hc, h]

theorem lexS_skip {c : Char} {r : List Char} {line : Nat} {rest : List Char} {line' : Nat}
    (hc : c ≠ ' ' ∧ c ≠ '\t') (h : scanOne (c :: r) line = .skip rest line') : lexS (c :: r) line = lexS rest line' := by
  rw [lexS_cons c r line hc, h]

theorem lexS_sp (r : List Char) (l : Nat) : lexS (' ' :: r) l = lexS r l := lexS_blank ' ' r l (.inl rfl)

/-! ### where a number can start -/

/-- a digit, a sign or the point: the characters at which `FLOAT` or `INT` can match -/
def numStart (c : Char) : Bool := isDig c || c == '-' || c == '+' || c == '.'

theorem spanDigits_nondigit (c : Char) (r : List Char) (h : isDig c = false) : spanDigits (c :: r) = ([], c :: r) :=
  spanDigits_append [] (c :: r) (by simp) (stopsAt_cons h)

theorem optSign_other (c : Char) (r : List Char) (h1 : c ≠ '-') (h2 : c ≠ '+') : optSign (c :: r) = (false, c :: r) := by
  unfold optSign
  split
  · rename_i h; injection h with h _; exact absurd h h1
  · rename_i h; injection h with h _; exact absurd h h2
  · rfl

theorem scanMantissa_nondigit (c : Char) (r : List Char) (hd : isDig c = false) (hdot : c ≠ '.') : scanMantissa (c :: r) = none := by
  unfold scanMantissa
  rw [spanDigits_nondigit c r hd]
  simp only [List.isEmpty_nil, Bool.not_true, Bool.false_eq_true, if_false]
  split
  · rename_i r2 heq; injection heq with h1 _; exact absurd h1 hdot
  · rfl

theorem numStart_eq_false {c : Char} (h : numStart c = false) : isDig c = false ∧ c ≠ '-' ∧ c ≠ '+' ∧ c ≠ '.' := by
  simpa [numStart, and_assoc] using h

theorem scanFloat_none {c : Char} (r : List Char) (h : numStart c = false) : scanFloat (c :: r) = none := by
  obtain ⟨hd, hm, hp, hdot⟩ := numStart_eq_false h
  unfold scanFloat
  rw [optSign_other c r hm hp]
  simp only [scanMantissa_nondigit c r hd hdot]

theorem scanInt_none {c : Char} (r : List Char) (h : numStart c = false) : scanInt (c :: r) = none := by
  obtain ⟨hd, hm, hp, _⟩ := numStart_eq_false h
  unfold scanInt
  rw [optSign_other c r hm hp]
  simp only
  rw [spanDigits_nondigit c r hd]
  simp

theorem dig_not_idstart (c : Char) (h : isDig c = true) : isIdStart c = false := by
  have hd : 48 ≤ c.toNat ∧ c.toNat ≤ 57 := by simpa [isDig, Char.isDigit, UInt32.le_iff_toNat_le] using h
  have h1 : c ≠ '_' := by rintro rfl; simp at hd
  simp [isIdStart, Char.isAlpha, Char.isUpper, Char.isLower, UInt32.le_iff_toNat_le, h1]
  omega

theorem numStart_not_idStart_blank {c : Char} (h : numStart c = true) : isIdStart c = false ∧ c ≠ ' ' ∧ c ≠ '\t' := by
  simp only [numStart, Bool.or_eq_true, beq_iff_eq] at h
  rcases h with ((h | rfl) | rfl) | rfl
  · exact ⟨dig_not_idstart c h, by rintro rfl; revert h; decide, by rintro rfl; revert h; decide⟩
  all_goals decide

/-- at a character that starts no identifier, no number and no quoted string `scanOne` is its last four rules: a run of line ends, unquoted
text, a comment, a punctuation mark (or the illegal character) -/
theorem scanOne_tail {c : Char} (r : List Char) (line : Nat) (hid : isIdStart c = false) (hnum : numStart c = false)
    (hq : (c == '"' || c == '\'') = false) :
    scanOne (c :: r) line =
      if c == '\r' || c == '\n' then
        let (nl, rest) := (c :: r).span (fun d => d == '\r' || d == '\n')
        .skip rest (line + countNewlines nl)
      else if !isPlainStop c then
        let (w, rest) := (c :: r).span (fun d => !isPlainStop d)
        .tok ⟨.plain, .str (String.ofList (w.reverse.dropWhile (fun d => d == ' ' || d == '\t')).reverse), line⟩ rest line
      else if c == '#' then .skip ((c :: r).dropWhile (· != '\n')) line
      else match punct? c with
        | some k => .tok ⟨k, .none, line⟩ r line
        | none => .stop ⟨.errIllegal, .none, line⟩ := by
  unfold scanOne
  simp only [hid, Bool.false_eq_true, if_false, scanFloat_none r hnum, scanInt_none r hnum, hq]
  rfl

/-! ### layout: line breaks and comments -/

/-- a line-end character; the model (`scanOne`) writes this test as a lambda and takes the run by `span`, `scanOne_newline` restates that with
`takeWhile` / `dropWhile` -/
def isNl (d : Char) : Bool := d == '\r' || d == '\n'

theorem scanOne_newline (c : Char) (r : List Char) (line : Nat) (hc : c = '\r' ∨ c = '\n') :
    scanOne (c :: r) line = .skip ((c :: r).dropWhile isNl) (line + countNewlines ((c :: r).takeWhile isNl)) := by
  obtain ⟨hid, hnum, hq, hnl⟩ : isIdStart c = false ∧ numStart c = false ∧ (c == '"' || c == '\'') = false ∧ (c == '\r' || c == '\n') = true := by
    rcases hc with rfl | rfl <;> decide
  rw [scanOne_tail r line hid hnum hq, if_pos hnl, List.span_eq_takeWhile_dropWhile]
  rfl

/-- skipping a run of line breaks at once or one by one gives the same stream -/
theorem lexS_drop_run (cs : List Char) (l : Nat) :
    lexS (cs.dropWhile isNl) (l + countNewlines (cs.takeWhile isNl)) = lexS cs l := by
  cases cs with
  | nil => rfl
  | cons c r =>
    by_cases hc : isNl c = true
    · have hc' : c = '\r' ∨ c = '\n' := by simpa [isNl] using hc
      have hb : c ≠ ' ' ∧ c ≠ '\t' := by rcases hc' with rfl | rfl <;> decide
      rw [lexS_skip hb (scanOne_newline c r l hc')]
    · rw [List.dropWhile_cons_of_neg hc, List.takeWhile_cons_of_neg hc]; rfl

/-- **a line feed advances the line counter by exactly one**, whatever follows: the step skips the whole run of line ends that starts here, which
is this line feed (`rfl` evaluates it) and then the rest of the run -/
theorem lexS_lf (cs : List Char) (line : Nat) : lexS ('\n' :: cs) line = lexS cs (line + 1) := by
  rw [lexS_skip (by decide) (scanOne_newline '\n' cs line (.inr rfl)), ← lexS_drop_run cs (line + 1), Nat.add_assoc]
  rfl

theorem lexS_crlf (cs : List Char) (line : Nat) : lexS ('\r' :: '\n' :: cs) line = lexS cs (line + 1) := by
  rw [lexS_skip (by decide) (scanOne_newline '\r' _ line (.inl rfl)), ← lexS_drop_run cs (line + 1), Nat.add_assoc]
  rfl

theorem lexS_comment (body cs : List Char) (line : Nat) (hb : ∀ c ∈ body, c ≠ '\n') :
    lexS ('#' :: (body ++ '\n' :: cs)) line = lexS ('\n' :: cs) line := by
  have hd : ('#' :: (body ++ '\n' :: cs)).dropWhile (· != '\n') = '\n' :: cs :=
    (List.dropWhile_append_of_pos (l₁ := '#' :: body) (by simpa using hb)).trans (List.dropWhile_cons_of_neg (by decide))
  refine lexS_skip (by decide) ?_
  -- `#` is no line end and a delimiter of unquoted text: the comment rule
  rw [scanOne_tail _ line (by decide) (by decide) (by decide), if_neg (by decide), if_neg (by decide), if_pos (by decide), hd]

/-! ### identifiers and punctuation -/

theorem scanOne_ident (c : Char) (w rest : List Char) (line : Nat) (hc : isIdStart c = true) (hw : ∀ x ∈ w, isIdCont x = true)
    (hs : StopsAt isIdCont rest) :
    scanOne (c :: (w ++ rest)) line = .tok ⟨.id, .str (String.ofList (c :: w)), line⟩ rest line := by
  unfold scanOne
  simp only [hc, if_true, span_append_stop isIdCont w rest hw hs]

theorem idstart_not_blank (c : Char) (h : isIdStart c = true) : c ≠ ' ' ∧ c ≠ '\t' := by
  constructor <;> (rintro rfl; revert h; decide)

theorem punct_cases (c : Char) (k : TokKind) (h : punct? c = some k) :
    (c = '[' ∨ c = '(' ∨ c = ']' ∨ c = ')' ∨ c = ':' ∨ c = ',' ∨ c = '=') := by
  by_contra hn
  simp only [not_or] at hn
  obtain ⟨h1, h2, h3, h4, h5, h6, h7⟩ := hn
  simp [punct?, h1, h2, h3, h4, h5, h6, h7] at h

theorem lexS_punct (c : Char) (k : TokKind) (r : List Char) (line : Nat) (hp : punct? c = some k) :
    lexS (c :: r) line = ⟨k, .none, line⟩ :: lexS r line := by
  obtain ⟨hid, hnum, hq, hnl, hps, hh, hb⟩ : isIdStart c = false ∧ numStart c = false ∧ (c == '"' || c == '\'') = false ∧
      (c == '\r' || c == '\n') = false ∧ (!isPlainStop c) = false ∧ (c == '#') = false ∧ (c ≠ ' ' ∧ c ≠ '\t') := by
    rcases punct_cases c k hp with rfl | rfl | rfl | rfl | rfl | rfl | rfl <;> decide
  refine lexS_tok hb ?_
  rw [scanOne_tail r line hid hnum hq]
  simp only [hnl, hps, hh, Bool.false_eq_true, if_false, hp]

/-! ### unquoted text that is no identifier and no number (`PLAIN_STRING`) -/

/-- a character that can start a `PLAIN_STRING` token and nothing else -/
def PlainStart (c : Char) : Prop :=
  isIdStart c = false ∧ isDig c = false ∧ c ≠ '-' ∧ c ≠ '+' ∧ c ≠ '.' ∧ c ≠ ' ' ∧ c ≠ '\t' ∧ isPlainStop c = false

theorem PlainStart.idStart {c : Char} (h : PlainStart c) : isIdStart c = false := h.1

theorem PlainStart.numStart {c : Char} (h : PlainStart c) : numStart c = false := by
  obtain ⟨_, hd, hm, hp, hdot, _⟩ := h
  simp [Lex.numStart, hd, hm, hp, hdot]

theorem PlainStart.not_blank {c : Char} (h : PlainStart c) : c ≠ ' ' ∧ c ≠ '\t' := ⟨h.2.2.2.2.2.1, h.2.2.2.2.2.2.1⟩

theorem PlainStart.plainStop {c : Char} (h : PlainStart c) : isPlainStop c = false := h.2.2.2.2.2.2.2

theorem not_quote_not_nl_of_plainStop_false (c : Char) (h : isPlainStop c = false) : (c == '"' || c == '\'') = false ∧ (c == '\r' || c == '\n') = false := by
  unfold isPlainStop at h
  simp only [Bool.or_eq_false_iff] at h ⊢
  obtain ⟨⟨⟨⟨_, hdq⟩, hsq⟩, hcr⟩, hlf⟩ := h
  exact ⟨⟨hdq, hsq⟩, ⟨hcr, hlf⟩⟩

/-- the text `c :: w` (first character as above, no delimiter inside, no blank at its end), followed by a delimiter or the end of the text, is one
`PLAIN_STRING` token holding exactly that text -/
theorem scanOne_plain (c : Char) (w rest : List Char) (line : Nat) (hc : PlainStart c) (hw : ∀ x ∈ w, isPlainStop x = false)
    (hlast : ∀ x, (c :: w).getLast? = some x → x ≠ ' ' ∧ x ≠ '\t') (hs : StopsAt (fun d => !isPlainStop d) rest) :
    scanOne (c :: (w ++ rest)) line = .tok ⟨.plain, .str (String.ofList (c :: w)), line⟩ rest line := by
  have hcs := hc.plainStop
  obtain ⟨hq, hnl⟩ := not_quote_not_nl_of_plainStop_false c hcs
  have hspan : (c :: (w ++ rest)).span (fun d => !isPlainStop d) = (c :: w, rest) :=
    span_append_stop (fun d => !isPlainStop d) (c :: w) rest (by simpa [hcs] using hw) hs
  -- `rstrip` takes nothing off: the last character is no blank
  have htrim : ((c :: w).reverse.dropWhile (fun d => d == ' ' || d == '\t')).reverse = c :: w :=
    List.rdropWhile_eq_self_iff.mpr fun hl => by simpa using hlast _ (List.getLast?_eq_some_getLast hl)
  rw [scanOne_tail _ line hc.idStart hc.numStart hq]
  simp only [hnl, Bool.false_eq_true, if_false, hcs, Bool.not_false, if_true, hspan, htrim]

/-! ### the value of a digit string -/

/-- `digitsVal` is core's `Nat.ofDigitChars`, whose lemmas give the three facts below -/
theorem digitsVal_eq (ds : List Char) : digitsVal ds = Nat.ofDigitChars 10 ds 0 := by
  simp only [digitsVal, Nat.ofDigitChars, Nat.mul_comm]

theorem digitsVal_app (l r : List Char) : digitsVal (l ++ r) = digitsVal l * 10 ^ r.length + digitsVal r := by
  rw [digitsVal_eq, digitsVal_eq, digitsVal_eq, Nat.ofDigitChars_append, Nat.ofDigitChars_eq_ofDigitChars_zero, Nat.mul_comm]

theorem digitsVal_zeros (n : Nat) (ds : List Char) : digitsVal (List.replicate n '0' ++ ds) = digitsVal ds := by
  rw [digitsVal_eq, digitsVal_eq, Nat.ofDigitChars_append, Nat.ofDigitChars_replicate_zero, Nat.mul_zero]

theorem digitsVal_toDigits (m : Nat) : digitsVal (Nat.toDigits 10 m) = m := by
  rw [digitsVal_eq, Nat.ofDigitChars_ten_toDigits]

theorem isDig_toDigits (m : Nat) : ∀ c ∈ Nat.toDigits 10 m, isDig c = true :=
  fun c hc => Nat.isDigit_of_mem_toDigits (by decide) (by decide) hc

/-! ### numbers: the two rules, the sign, integers -/

theorem scanOne_of_float (c : Char) (tl : List Char) (line : Nat) (q : Rat) (rest : List Char) (hid : isIdStart c = false)
    (hF : scanFloat (c :: tl) = some (some q, rest)) :
    scanOne (c :: tl) line = .tok ⟨.float, if q == 0 && c == '-' then .negZero else .float q, line⟩ rest line := by
  unfold scanOne
  simp only [hid, Bool.false_eq_true, if_false, hF]

theorem scanOne_of_int (c : Char) (tl : List Char) (line : Nat) (v : Int) (rest : List Char) (hid : isIdStart c = false)
    (hF : scanFloat (c :: tl) = none) (hI : scanInt (c :: tl) = some (v, rest)) :
    scanOne (c :: tl) line = .tok ⟨.int, .int v, line⟩ rest line := by
  unfold scanOne
  simp only [hid, Bool.false_eq_true, if_false, hF, hI]

theorem lexS_of_float {cs rest : List Char} {q : Rat} (line : Nat) (hF : scanFloat cs = some (some q, rest)) :
    lexS cs line = ⟨.float, if q == 0 && cs.head? == some '-' then .negZero else .float q, line⟩ :: lexS rest line := by
  cases cs with
  | nil => cases hF
  | cons c tl =>
    have hn : numStart c = true := by
      by_contra h; rw [scanFloat_none tl (by simpa using h)] at hF; cases hF
    rw [lexS_tok (numStart_not_idStart_blank hn).2 (scanOne_of_float c tl line q rest (numStart_not_idStart_blank hn).1 hF)]
    simp

theorem lexS_of_int {cs rest : List Char} {n : Int} (line : Nat) (hF : scanFloat cs = none) (hI : scanInt cs = some (n, rest)) :
    lexS cs line = ⟨.int, .int n, line⟩ :: lexS rest line := by
  cases cs with
  | nil => cases hI
  | cons c tl =>
    have hn : numStart c = true := by
      by_contra h; rw [scanInt_none tl (by simpa using h)] at hI; cases hI
    exact lexS_tok (numStart_not_idStart_blank hn).2 (scanOne_of_int c tl line n rest (numStart_not_idStart_blank hn).1 hF hI)

def signChars (neg : Bool) : List Char := if neg then ['-'] else []

theorem optSign_signChars (neg : Bool) {d : Char} (r : List Char) (h : isDig d = true ∨ d = '.') :
    optSign (signChars neg ++ d :: r) = (neg, d :: r) := by
  cases neg with
  | true => rfl
  | false => exact optSign_other d r (by rintro rfl; revert h; decide) (by rintro rfl; revert h; decide)

theorem scanInt_spelling (neg : Bool) (ds rest : List Char) (hne : ds ≠ []) (hd : ∀ c ∈ ds, isDig c = true)
    (hs : StopsAt (fun c => isDig c || c == '.') rest) :
    scanFloat (signChars neg ++ (ds ++ rest)) = none ∧
      scanInt (signChars neg ++ (ds ++ rest)) = some ((if neg then -(digitsVal ds : Int) else (digitsVal ds : Int)), rest) := by
  have hsd : StopsAt isDig rest := stopsAt_weaken hs (by intro c h; simp only [Bool.or_eq_false_iff] at h; exact h.1)
  obtain ⟨d, ds', rfl⟩ := List.exists_cons_of_ne_nil hne
  have hdd := Or.inl (b := d = '.') (hd d (List.mem_cons_self ..))
  have hsp := spanDigits_append (d :: ds') rest hd hsd
  have hmant : scanMantissa (d :: ds' ++ rest) = none := by
    unfold scanMantissa
    rw [hsp]
    simp only [List.isEmpty_cons, Bool.not_false, if_true]
    split
    · rename_i r2; have := hs '.' r2 rfl; simp at this
    · rfl
  simp only [List.cons_append] at hmant hsp ⊢
  constructor
  · unfold scanFloat; rw [optSign_signChars neg _ hdd]; simp only [hmant]
  · unfold scanInt; rw [optSign_signChars neg _ hdd]; simp only [hsp]; simp

/-! ### decimals: mantissa, exponent, value -/

theorem scanMantissa_spelling (ip fp rest : List Char) (hne : ip ≠ [] ∨ fp ≠ []) (hi : ∀ c ∈ ip, isDig c = true) (hf : ∀ c ∈ fp, isDig c = true)
    (hs : StopsAt isDig rest) : scanMantissa (ip ++ '.' :: (fp ++ rest)) = some (ip, fp, rest) := by
  unfold scanMantissa
  rw [spanDigits_append ip _ hi (stopsAt_cons (by decide))]
  simp only [spanDigits_append fp rest hf hs]
  cases ip with
  | cons => rfl
  | nil =>
    cases fp with
    | cons => rfl
    | nil => simp at hne

/-- the exponent part: `e` or `E`, an optional sign, digits -/
def expChars (upper : Bool) (sign : Option Bool) (ed : List Char) : List Char :=
  (if upper then 'E' else 'e') :: ((match sign with | none => [] | some true => ['-'] | some false => ['+']) ++ ed)

def expVal (sign : Option Bool) (ed : List Char) : Int := if sign = some true then -(digitsVal ed : Int) else (digitsVal ed : Int)

theorem scanExponent_stop (rest : List Char) (hs : StopsAt (fun c => isDig c || c == 'e' || c == 'E') rest) : scanExponent rest = (0, rest) := by
  unfold scanExponent
  split
  · rename_i c r4
    have := hs c r4 rfl
    simp only [Bool.or_eq_false_iff] at this
    simp [this.1.2, this.2]
  · rfl

theorem scanExponent_exp (upper : Bool) (sign : Option Bool) (ed rest : List Char) (hne : ed ≠ []) (hd : ∀ c ∈ ed, isDig c = true)
    (hs : StopsAt isDig rest) : scanExponent (expChars upper sign ed ++ rest) = (expVal sign ed, rest) := by
  obtain ⟨d, ed', rfl⟩ := List.exists_cons_of_ne_nil hne
  have hc : ((if upper then 'E' else 'e') == 'e' || (if upper then 'E' else 'e') == 'E') = true := by cases upper <;> decide
  have hsp : spanDigits (d :: (ed' ++ rest)) = (d :: ed', rest) := spanDigits_append (d :: ed') rest hd hs
  have h0 : optSign (d :: (ed' ++ rest)) = (false, d :: (ed' ++ rest)) := optSign_signChars false _ (.inl (hd d (List.mem_cons_self ..)))
  have hm : optSign ('-' :: d :: (ed' ++ rest)) = (true, d :: (ed' ++ rest)) := rfl
  have hp : optSign ('+' :: d :: (ed' ++ rest)) = (false, d :: (ed' ++ rest)) := rfl
  unfold expChars scanExponent
  rcases sign with _ | _ | _ <;> simp only [List.cons_append, List.nil_append, hc, if_true, h0, hm, hp, hsp] <;> rfl

/-- the value of the decimal `ip.fp` times ten to the `e` (as the lexer computes it: one scaling by `e - #fp`) -/
def scaledValue (ip fp : List Char) (e : Int) : Rat :=
  let m : Rat := (digitsVal (ip ++ fp) : Nat)
  let scale : Int := e - fp.length
  if scale ≥ 0 then m * ((10 : Rat) ^ scale.toNat) else m / ((10 : Rat) ^ (-scale).toNat)

theorem scanFloat_eq {cs r0 ip fp r3 rest : List Char} {neg : Bool} {e : Int} (h0 : optSign cs = (neg, r0))
    (hm : scanMantissa r0 = some (ip, fp, r3)) (he : scanExponent r3 = (e, rest)) (hlen : (e - fp.length).natAbs ≤ 5000) :
    scanFloat cs = some (some (if neg then -scaledValue ip fp e else scaledValue ip fp e), rest) := by
  unfold scanFloat
  simp only [h0, hm, he]
  rw [if_neg (by omega)]
  rfl

def decimalValue (ip fp : List Char) : Rat := ((digitsVal (ip ++ fp) : Nat) : Rat) / (10 : Rat) ^ fp.length

theorem scaledValue_zero (ip fp : List Char) : scaledValue ip fp 0 = decimalValue ip fp := by
  unfold scaledValue decimalValue
  by_cases h0 : fp.length = 0
  · simp [h0]
  · have : ¬ ((0 - (fp.length : Int)) ≥ 0) := by omega
    have e : (-(0 - (fp.length : Int))).toNat = fp.length := by omega
    simp only [this, if_false, e]

/-- the token value of a decimal literal: the sign is kept even for zero (`-0.0`) -/
def floatTokVal (neg : Bool) (ip fp : List Char) : TVal :=
  if neg && decimalValue ip fp == 0 then .negZero else .float (if neg then -decimalValue ip fp else decimalValue ip fp)

def floatExpTokVal (neg : Bool) (ip fp : List Char) (e : Int) : TVal :=
  if neg && scaledValue ip fp e == 0 then .negZero else .float (if neg then -scaledValue ip fp e else scaledValue ip fp e)

theorem floatTokVal_eq (neg : Bool) (ip fp : List Char) : floatTokVal neg ip fp = floatExpTokVal neg ip fp 0 := by
  unfold floatTokVal floatExpTokVal; rw [scaledValue_zero]

/-- **decimal literals**: an optional minus sign, digits, the point, digits - a digit on at least one side of the point - and an exponent part
`ex` that `scanExponent` reads as `e` (none: `e = 0`), for every scaling within ±5000 decimal places: one `FLOAT` token with the exact value
`ip.fp · 10^e`, the sign kept even for zero.  The bound is the model's own cut-off (`scanFloat`: beyond it the token is `errOutside`), so without
it the statement is false -/
theorem lexS_decimal (neg : Bool) (ip fp ex rest : List Char) (e : Int) (line : Nat) (hne : ip ≠ [] ∨ fp ≠ [])
    (hi : ∀ c ∈ ip, isDig c = true) (hf : ∀ c ∈ fp, isDig c = true) (hs : StopsAt isDig (ex ++ rest))
    (hex : scanExponent (ex ++ rest) = (e, rest)) (hlen : (e - fp.length).natAbs ≤ 5000) :
    lexS (signChars neg ++ (ip ++ '.' :: (fp ++ (ex ++ rest)))) line = ⟨.float, floatExpTokVal neg ip fp e, line⟩ :: lexS rest line := by
  have hm := scanMantissa_spelling ip fp (ex ++ rest) hne hi hf hs
  obtain ⟨d, r, hb, hd⟩ : ∃ d r, ip ++ '.' :: (fp ++ (ex ++ rest)) = d :: r ∧ (isDig d = true ∨ d = '.') := by
    cases ip with
    | nil => exact ⟨_, _, rfl, Or.inr rfl⟩
    | cons d ip' => exact ⟨_, _, rfl, Or.inl (hi d (List.mem_cons_self ..))⟩
  rw [hb] at hm ⊢
  rw [lexS_of_float line (scanFloat_eq (optSign_signChars neg r hd) hm hex hlen)]
  have hdm : d ≠ '-' := by rintro rfl; revert hd; decide
  unfold floatExpTokVal
  -- the text starts with `-` iff `neg` (the mantissa starts with a digit or the point), and `-x` is zero iff `x` is
  cases neg <;> simp [signChars, hdm, Bool.and_comm, neg_eq_zero]

theorem lexS_decimal_noexp (neg : Bool) (ip fp rest : List Char) (line : Nat) (hne : ip ≠ [] ∨ fp ≠ []) (hi : ∀ c ∈ ip, isDig c = true)
    (hf : ∀ c ∈ fp, isDig c = true) (hs : StopsAt (fun c => isDig c || c == 'e' || c == 'E') rest) (hlen : fp.length ≤ 5000) :
    lexS (signChars neg ++ (ip ++ '.' :: (fp ++ rest))) line = ⟨.float, floatTokVal neg ip fp, line⟩ :: lexS rest line := by
  have hsd : StopsAt isDig rest := stopsAt_weaken hs (by intro c h; simp only [Bool.or_eq_false_iff] at h; exact h.1.1)
  have := lexS_decimal neg ip fp [] rest 0 line hne hi hf hsd (scanExponent_stop rest hs) (by omega)
  simpa [floatTokVal_eq] using this

end MPilot.Lex
