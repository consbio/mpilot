/-
Lemmas/PlanProps — what every `Plan` does, whatever the command: one lemma per property and constructor.  Apart from Lemmas/Plan because
the properties need the relations of MaskSup, Rearr and Perm, which the normal form itself does not.
-/
import MPilot.Lemmas.Plan
import MPilot.Lemmas.MaskSup
import MPilot.Lemmas.Rearr
import MPilot.Lemmas.List

namespace MPilot

theorem Plan.run_rel {R : Arr → Arr → Prop} (p : Plan) {xs xs' : List Arr} (hc : R (p.core.run xs) (p.core.run xs'))
    (hs : ∀ (s : UnOp) r r', R r r' → R (r.mapCells s.ap) (r'.mapCells s.ap)) : R (p.run xs) (p.run xs') := by
  unfold Plan.run
  generalize p.core.run xs = r at hc
  generalize p.core.run xs' = r' at hc
  induction p.post generalizing r r' with
  | nil => exact hc
  | cons s l ih => exact ih _ _ (hs s r r' hc)

theorem Plan.run_ind {P : Arr → Prop} (p : Plan) {xs : List Arr} (hc : P (p.core.run xs)) (hs : ∀ (s : UnOp) r, P r → P (r.mapCells s.ap)) :
    P (p.run xs) :=
  p.run_rel (R := fun r _ => P r) (xs' := xs) hc fun s r _ => hs s r

/-! ### visibly equal inputs: same view, visibly equal run -/

theorem view_R {xs xs' : List Arr} (h : List.Forall₂ ArrR xs xs') : view xs = view xs' := by
  have h0 : ArrR (xs.headD default) (xs'.headD default) := by
    cases h with
    | nil => exact ArrR.refl _
    | cons ha _ => exact ha
  have hv : ∀ ref, validateShapes ref xs = validateShapes ref xs' := fun ref =>
    validateShapes_congr ref fun _ => by rw [forall₂_map_eq (fun _ _ h => h.2.1) h]
  simp only [view, h.length_eq, hv, promoteAll_congr (forall₂_map_eq (fun _ _ h => h.1) h), h0.1, valid_ArrR h0]

theorem scaled_R (c : DataCmd) {xs xs' : List Arr} (h : List.Forall₂ ArrR xs xs') : List.Forall₂ ArrR (c.scaled xs) (c.scaled xs') := by
  unfold DataCmd.scaled
  cases c.inputs with
  | weighted w =>
    induction h generalizing w with
    | nil => cases w <;> exact .nil
    | cons ha _ ih => cases w with
      | nil => exact .nil
      | cons w0 w => exact .cons (mapCells_R (fun _ _ hc => hc.map (Cell.sc_vis _)) ha) (ih w)
  | _ => exact h

theorem BinOp.ap_R (f : BinOp) {a a' b b' : Cell} (ha : CellR a a') (hb : CellR b b') : CellR (f.ap a b) (f.ap a' b') := by
  rw [cellR_iff_vis] at *
  cases f with
  | bin g => rw [BinOp.ap, Cell.bin_vis, Cell.bin_vis, ha, hb]
  | div => rw [BinOp.ap, Cell.div_vis, Cell.div_vis, ha, hb]

theorem UnOp.ap_R (s : UnOp) {a a' : Cell} (h : CellR a a') : CellR (s.ap a) (s.ap a') := by
  cases s with
  | sc f => exact h.map (Cell.sc_vis f)
  | divSc d => exact divSc_R d h
  | insure lo hi => exact h.map (Cell.insure_vis lo hi)
  | val f => exact h.map (Cell.valmap_vis f)
  | hide p => exact ⟨rfl, fun hm => by cases hm⟩
  | lin x1 x2 y1 y2 => exact (divSc_R _ ((h.map (Cell.sc_vis _)).map (Cell.sc_vis _))).map (Cell.sc_vis _)

theorem Plan.run_R (p : Plan) {xs xs' : List Arr} (h : List.Forall₂ ArrR xs xs') : ArrR (p.run xs) (p.run xs') := by
  refine p.run_rel ?_ fun s _ _ => mapCells_R fun _ _ => s.ap_R
  cases p.core with
  | stack φ => exact stackMap_R _ h
  | fold f dt => cases h with
    | nil => exact ArrR.refl _
    | cons ha ht => exact foldArr_R (fun _ _ _ _ => f.ap_R) dt ha ht

/-! ### what a successful check tells -/

theorem plan_ok {sqrt : Rat → Rat} {c : DataCmd} {v : View} {p : Plan} (h : plan sqrt c v = .ok p) :
    arityCheck c v.arity = .ok () ∧ v.shapes c.ref = .ok () ∧
      ∃ q, bodyPlan sqrt c v = .ok q ∧ p = if c.isFuzzyProducer then q.andThen (.insure (-1) 1) else q := by
  obtain ⟨_, h1, h⟩ := bind_ok h
  obtain ⟨_, h2, h⟩ := bind_ok h
  obtain ⟨q, h3, h⟩ := bind_ok h
  exact ⟨h1, h2, q, h3, by injection h with h; exact h.symm⟩

theorem exec_ok {sqrt : Rat → Rat} {c : DataCmd} {xs : List Arr} {r : Arr} (h : exec sqrt c xs = .ok r) :
    ∃ p, plan sqrt c (view xs) = .ok p ∧ r = p.run (c.scaled xs) := by
  rw [exec_eq] at h
  exact map_ok h

theorem scaled_spec {c : DataCmd} {xs : List Arr} (h : arityCheck c xs.length = .ok ()) :
    List.Forall₂ (fun a b => b = a ∨ ∃ w, b = scaleArr w a) xs (c.scaled xs) := by
  unfold arityCheck at h
  unfold DataCmd.scaled
  generalize c.inputs = i at h ⊢
  cases i with
  | weighted w =>
    have hl : w.length = xs.length := (ite_ok_eq_ok.mp h).1
    clear h
    induction xs generalizing w with
    | nil => cases w <;> [exact .nil; cases hl]
    | cons a t ih => cases w with
      | nil => cases hl
      | cons w0 w => exact .cons (Or.inr ⟨w0, rfl⟩) (ih w (Nat.succ.inj hl))
  | _ => exact List.forall₂_same.mpr fun _ _ => Or.inl rfl

theorem scaled_exactly {c : DataCmd} {k : Nat} (hc : c.inputs = .exactly k) (xs : List Arr) : c.scaled xs = xs := by
  rw [DataCmd.scaled, hc]

theorem scaled_length {c : DataCmd} {xs : List Arr} (h : arityCheck c xs.length = .ok ()) {n : Nat} (hn : ∀ a ∈ xs, a.cells.length = n) :
    ∀ b ∈ c.scaled xs, b.cells.length = n := by
  intro b hb
  obtain ⟨a, ha, hab⟩ := forall₂_mem_right (scaled_spec h) hb
  rcases hab with rfl | ⟨w, rfl⟩
  · exact hn _ ha
  · exact (List.length_map _).trans (hn a ha)

/-! ### missing stays missing -/

/-- does the operation leave every cell missing, whatever the input? (a division by zero, or `hide`) -/
def UnOp.hides : UnOp → Bool
  | .divSc d => d == 0
  | .hide _ => true
  | .lin x1 x2 _ _ => x2 - x1 == 0
  | _ => false

theorem UnOp.mask_ap (s : UnOp) (c : Cell) : (s.ap c).mask = (c.mask || s.hides) := by
  cases s with
  | insure lo hi => exact (Cell.insure_mask lo hi c).trans (Bool.or_false _).symm
  | hide p => exact (Bool.or_true _).symm
  | sc f | val f => exact (Bool.or_false _).symm
  | divSc d | lin x1 x2 y1 y2 => rfl

theorem BinOp.ap_sup_left (f : BinOp) (a b : Cell) : MImp a (f.ap a b) := by
  cases f with
  | bin g => exact bin_sup_left g a b
  | div => exact div_sup_left a b

theorem BinOp.ap_sup_right (f : BinOp) (a b : Cell) : MImp b (f.ap a b) := by
  cases f with
  | bin g => exact bin_sup_right g a b
  | div => exact div_sup_right a b

theorem Plan.run_sup (p : Plan) {ys : List Arr} {n : Nat} (hn : ∀ b ∈ ys, b.cells.length = n) : ∀ b ∈ ys, Sup b (p.run ys) := by
  intro b hb
  refine p.run_ind ?_ fun s r h => h.trans (mapCells_sup (fun c h => by rw [s.mask_ap, h]; rfl) r)
  cases ys with
  | nil => cases hb
  | cons a t =>
    cases p.core with
    | fold f dt => exact foldArr_sup f.ap_sup_left f.ap_sup_right dt a t n hn b hb
    | stack φ => exact stackMap_sup _ a t (fun x hx => by rw [hn x hx, hn a (List.mem_cons_self ..)]) b hb

/-! ### a single input: missing exactly where the input is, or everywhere -/

theorem Plan.one_run_exact (dt : DType) (post : List UnOp) (a : Arr) : ExactOrAll a ((Plan.one dt post).run [a]) :=
  (Plan.one dt post).run_ind (Or.inl (List.forall₂_same.mpr fun _ _ => rfl)) fun s _ h => h.step s.mask_ap

theorem plan_one {sqrt : Rat → Rat} {c : DataCmd} {v : View} {p : Plan} (hc : c.inputs = .exactly 1) (h : plan sqrt c v = .ok p) :
    ∃ dt post, p = .one dt post := by
  obtain ⟨-, -, q, hq, rfl⟩ := plan_ok h
  have : ∃ dt post, q = .one dt post := by
    cases c <;> cases hc
    case copy | fuzzyNot | normalize | normalizeZScore | cvtToFuzzyZScore => all_goals exact ⟨_, _, (Except.ok.inj hq).symm⟩
    -- the others check their parameters first
    all_goals obtain ⟨_, _, rfl⟩ := map_ok hq; exact ⟨_, _, rfl⟩
  obtain ⟨dt, post, rfl⟩ := this
  split <;> exact ⟨_, _, rfl⟩

/-! ### shape and element type of a run -/

theorem Plan.run_shape (p : Plan) (a : Arr) (t : List Arr) : (p.run (a :: t)).shape = a.shape := by
  refine p.run_ind (P := fun r => r.shape = a.shape) ?_ fun _ _ h => h
  cases p.core with
  | fold f dt => exact foldArr_shape _ _ _ _
  | stack φ => rfl

def Core.dtype : Core → DType
  | .fold _ dt => dt
  | .stack _ => .float

theorem Plan.run_dtype (p : Plan) (a : Arr) (t : List Arr) : (p.run (a :: t)).dtype = p.core.dtype := by
  refine p.run_ind (P := fun r => r.dtype = p.core.dtype) ?_ fun _ _ h => h
  cases p.core with
  | fold f dt => exact foldArr_dtype _ _ _ _
  | stack φ => rfl

theorem scaled_ne_nil {c : DataCmd} {xs : List Arr} (hk : arityCheck c xs.length = .ok ()) (hv : validateShapes c.ref xs = .ok ()) :
    c.scaled xs ≠ [] := by
  intro e
  have := (scaled_spec hk).length_eq
  rw [e, List.length_nil, List.length_eq_zero_iff] at this
  subst this
  cases hv

theorem exec_dtype {sqrt : Rat → Rat} {c : DataCmd} {xs : List Arr} {r : Arr} (h : exec sqrt c xs = .ok r) :
    ∃ q, bodyPlan sqrt c (view xs) = .ok q ∧ r.dtype = q.core.dtype := by
  obtain ⟨p, hp, rfl⟩ := exec_ok h
  obtain ⟨hk, hv, q, hq, rfl⟩ := plan_ok hp
  obtain ⟨b, ys, e⟩ := List.exists_cons_of_ne_nil (scaled_ne_nil hk hv)
  refine ⟨q, hq, ?_⟩
  rw [e, Plan.run_dtype]
  split <;> rfl

/-! ### rearranging the cells of all inputs -/

theorem view_rearr (s σ : List Nat) (n : Nat) (hσ : σ.Perm (List.range n)) {xs : List Arr} (hn : ∀ a ∈ xs, a.cells.length = n)
    (hs : SameShape xs) : view (xs.map (Arr.rearr s σ)) = view xs := by
  have h0 : stats ((xs.map (Arr.rearr s σ)).headD default).valid = stats (xs.headD default).valid ∧
      ((xs.map (Arr.rearr s σ)).headD default).dtype = (xs.headD default).dtype := by
    cases xs with
    | nil => exact ⟨rfl, rfl⟩
    | cons a t => exact ⟨stats_cover (.of_perm (rearr_valid_perm_self s σ a (by rw [hn a (List.mem_cons_self ..)]; exact hσ))) Nat.one_pos, rfl⟩
  have hp : promoteAll (xs.map (Arr.rearr s σ)) = promoteAll xs := promoteAll_congr (by rw [List.map_map]; rfl)
  simp only [view, List.length_map, validateShapes_rearr _ s σ xs hs, hp, h0.1, h0.2]

theorem scaled_rearr (c : DataCmd) (s σ : List Nat) (xs : List Arr) :
    c.scaled (xs.map (Arr.rearr s σ)) = (c.scaled xs).map (Arr.rearr s σ) := by
  unfold DataCmd.scaled
  cases c.inputs with
  | weighted w => simp only [List.zipWith_map_right, List.map_zipWith, scaleArr, rearr_mapCells]
  | _ => rfl

theorem Plan.run_rearr (p : Plan) (s σ : List Nat) (n : Nat) (hσ : σ.Perm (List.range n)) {ys : List Arr} (hne : ys ≠ [])
    (hn : ∀ b ∈ ys, b.cells.length = n) : (p.run ys).rearr s σ = p.run (ys.map (Arr.rearr s σ)) := by
  obtain ⟨a, t, rfl⟩ := List.exists_cons_of_ne_nil hne
  refine p.run_rel (R := fun r r' => r.rearr s σ = r') ?_ fun _ _ _ h => by rw [rearr_mapCells, h]
  cases p.core with
  | fold f dt => exact rearr_foldArr s σ _ dt n hσ a t hn
  | stack φ => exact rearr_stackMap s σ n hσ _ a t hn

/-- single-input commands commute with every relabelling `T` of the cells (a permutation, a reshape, a repetition of the field) under which
the checks come to the same plan - as they do when `view [T a] = view [a]`: the general statement behind the tiling theorems of C05Tile -/
theorem exec_one_map {T : Arr → Arr} (hT : ∀ f a, T (a.mapCells f) = (T a).mapCells f)
    (hdt : ∀ dt (a : Arr), T { a with dtype := dt } = { T a with dtype := dt })
    (sqrt : Rat → Rat) {c : DataCmd} (hc : c.inputs = .exactly 1) (a : Arr) (hv : plan sqrt c (view [T a]) = plan sqrt c (view [a])) :
    exec sqrt c [T a] = (exec sqrt c [a]).map T := by
  rw [exec_eq, exec_eq, hv, scaled_exactly hc, scaled_exactly hc]
  cases hp : plan sqrt c (view [a]) with
  | error e => rfl
  | ok p =>
    obtain ⟨dt, post, rfl⟩ := plan_one hc hp
    exact congrArg Except.ok ((Plan.one dt post).run_rel (R := fun r r' => r = T r') (hdt dt a).symm fun _ _ _ h => by rw [h, hT])

end MPilot
