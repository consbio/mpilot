/-
Lemmas/Parse — the grammar model read forwards: what each parsing function returns on input of a given shape.
Props/C10 runs the parser on renderings through these step equations; the converse readings (what a call that succeeds looks like) are the
`f_ok` lemmas of Props/C10Reject.
-/
import MPilot.Model.Grammar

namespace MPilot.Parse

theorem isErr_false_of_kind {t : Tok} {k : TokKind} (h : t.kind = k) (hk : (k == .errIllegal || k == .errEscape || k == .errOutside) = false) :
    t.isErr = false := by
  unfold Tok.isErr; rw [h]; exact hk

theorem peek_head {t : Tok} {r : List Tok} (h : t.isErr = false) : peek (t :: r) = .ok (some t.kind) := by
  simp [peek, h]

theorem peek_kind {t : Tok} {r : List Tok} {k : TokKind} (hk : t.kind = k)
    (hne : (k == .errIllegal || k == .errEscape || k == .errOutside) = false := by rfl) : peek (t :: r) = .ok (some k) := by
  rw [peek_head (isErr_false_of_kind hk hne), hk]

theorem expect_kind {t : Tok} {r : List Tok} {k : TokKind} (hk : t.kind = k)
    (hne : (k == .errIllegal || k == .errEscape || k == .errOutside) = false := by rfl) : expect k (t :: r) = .ok (t, r) := by
  simp [expect, isErr_false_of_kind hk hne, hk]

/-- the parser's tests on an `ID` or `PLAIN_STRING` token -/
theorem tests_at_word {t : Tok} (hk : t.kind = .id ∨ t.kind = .plain) :
    t.isErr = false ∧ isPsStart t.kind = true ∧ (t.kind == .string) = false ∧ (t.kind == .lbrack) = false ∧
      (t.kind == .int || t.kind == .float) = false ∧ (some t.kind == some .plain || some t.kind == some .id) = true := by
  unfold Tok.isErr; rcases hk with h | h <;> rw [h] <;> exact ⟨rfl, rfl, rfl, rfl, rfl, rfl⟩

theorem tests_at_number {t : Tok} (hk : t.kind = .int ∨ t.kind = .float) :
    t.isErr = false ∧ (t.kind == .string) = false ∧ (t.kind == .lbrack) = false ∧ (t.kind == .int || t.kind == .float) = true := by
  unfold Tok.isErr; rcases hk with h | h <;> rw [h] <;> exact ⟨rfl, rfl, rfl, rfl⟩

theorem plain_go_stop {t : Tok} (r : List Tok) (acc : String) (last : Option TokKind) (he : t.isErr = false) (hps : isPsStart t.kind = false) :
    plainString.go (t :: r) acc last = .ok (acc, last, t :: r) := by
  rw [plainString.go]; simp [he, hps]

theorem plain_go_word {t : Tok} {s : String} (r : List Tok) (acc : String) (last : Option TokKind) (he : t.isErr = false)
    (hps : isPsStart t.kind = true) (hv : t.val = .str s) : plainString.go (t :: r) acc last = plainString.go r (acc ++ s) (some t.kind) := by
  rw [plainString.go]; simp [he, hps, tokText, hv]

theorem plainString_one {t u : Tok} {s : String} (r : List Tok) (hk : t.kind = .id ∨ t.kind = .plain) (hv : t.val = .str s)
    (he : u.isErr = false) (hps : isPsStart u.kind = false) : plainString (t :: u :: r) = .ok ((s, t.line), u :: r) := by
  obtain ⟨hte, hk', _, _, _, hw⟩ := tests_at_word hk
  unfold plainString
  simp only [hte, Bool.false_eq_true, if_false, hk', Bool.not_true, plain_go_word _ _ _ hte hk' hv, plain_go_stop r _ _ he hps, hw, if_true,
    String.empty_append]

theorem plainString_two {t t' u : Tok} {a b : String} (r : List Tok) (hk : isPsStart t.kind = true) (hte : t.isErr = false) (hv : t.val = .str a)
    (hk' : t'.kind = .id ∨ t'.kind = .plain) (hv' : t'.val = .str b) (he : u.isErr = false) (hps : isPsStart u.kind = false) :
    plainString (t :: t' :: u :: r) = .ok ((a ++ b, t.line), u :: r) := by
  obtain ⟨hte', hps', _, _, _, hw⟩ := tests_at_word hk'
  unfold plainString
  simp only [hte, Bool.false_eq_true, if_false, hk, Bool.not_true, plain_go_word _ _ _ hte hk hv, plain_go_word _ _ _ hte' hps' hv',
    plain_go_stop r _ _ he hps, hw, if_true, String.empty_append]

/-- a token behind which neither a number nor an unquoted string goes on: no lexer error, none of their tokens, no colon -/
structure Ends (u : Tok) : Prop where
  noErr : u.isErr = false
  noWord : isPsStart u.kind = false
  noColon : (u.kind == .colon) = false

theorem Ends.of_terminator {t : Tok} (h : t.kind = .comma ∨ t.kind = .rbrack ∨ t.kind = .rparen) : Ends t := by
  rcases h with h | h | h <;> exact ⟨isErr_false_of_kind h rfl, by rw [h]; rfl, by rw [h]; rfl⟩

/- Several proofs below end `split <;> first | rfl | simp_all`.  In each, `peek` has returned `some t.kind`, the `match` on it names one kind
(`.colon`, `.comma`, `.rbrack` or `.rparen`) and a hypothesis says `t.kind` is not that kind: of the arms `split` shows, the default arm is the
claim (`rfl`); the named arm and the error arm contradict what is known (`simp_all`). -/

theorem permissive_more_stop (f : Nat) (acc : String) {t : Tok} (r : List Tok) (he : t.isErr = false) (hc : (t.kind == .colon) = false) :
    permissive.more (f + 1) acc (t :: r) = .ok (acc, t :: r) := by
  rw [permissive.more, peek_head he]
  have : t.kind ≠ .colon := by simpa using hc
  split <;> first | rfl | simp_all

theorem permissive_of_plainString {ts : List Tok} {s : String} {l : Nat} {t : Tok} {r : List Tok} (n : Nat)
    (hps : plainString ts = .ok ((s, l), t :: r)) (ht : Ends t) : permissive (n + 1) ts = .ok ((s, l), t :: r) := by
  unfold permissive
  rw [hps]
  simp only [permissive_more_stop _ _ _ ht.noErr ht.noColon]

/-! ### is a tuple key coming (`atPair`) -/

theorem atPair_string {t u : Tok} (r : List Tok) (h : t.kind = .string) : atPair (t :: u :: r) = (u.kind == .colon) := by
  simp [atPair, h]

theorem atPair_other {t : Tok} (r : List Tok) (hs : t.kind ≠ .string) (hps : isPsStart t.kind = false) : atPair (t :: r) = false := by
  cases r with
  | nil => rfl
  | cons u r => simp [atPair, hs, hps]

/-- a run of tokens that can make up an unquoted string, then a token `u` that cannot: a tuple key iff the run ends in a word and `u` is a colon -/
theorem atPair_run {l u : Tok} (run r : List Tok) (hrun : ∀ x ∈ run, isPsStart x.kind = true) (hl : isPsStart l.kind = true)
    (hu : isPsStart u.kind = false) : atPair (run ++ l :: u :: r) = ((l.kind == .plain || l.kind == .id) && u.kind == .colon) := by
  have hall : ∀ x ∈ run ++ [l], isPsStart x.kind = true := List.forall_mem_append.mpr ⟨hrun, List.forall_mem_singleton.mpr hl⟩
  have htw : (run ++ l :: u :: r).takeWhile (fun x => isPsStart x.kind) = run ++ [l] := by
    rw [show run ++ l :: u :: r = (run ++ [l]) ++ u :: r by simp, List.takeWhile_append_of_pos hall]
    simp [hu]
  obtain ⟨t, v, tl, e, ht⟩ : ∃ t v tl, run ++ l :: u :: r = t :: v :: tl ∧ isPsStart t.kind = true := by
    cases run with
    | nil => exact ⟨_, _, _, rfl, hl⟩
    | cons a run' => cases run' <;> exact ⟨_, _, _, rfl, hrun a (List.mem_cons_self ..)⟩
  have hns : (t.kind == .string) = false := by revert ht; cases t.kind <;> decide
  unfold atPair
  rw [e]
  simp only [hns, Bool.false_eq_true, if_false]
  rw [← e, htw]
  simp

theorem expression_string (f : Nat) {t : Tok} (r : List Tok) (hk : t.kind = .string) :
    expression (f + 1) (t :: r) = .ok (.mk (numVal t) t.line, r) := by
  rw [expression]; simp only [isErr_false_of_kind hk rfl, hk]; rfl

/-- a number is a number when what follows cannot continue an unquoted string -/
theorem expression_number (f : Nat) {t u : Tok} (r : List Tok) (hk : t.kind = .int ∨ t.kind = .float) (hu : Ends u) :
    expression (f + 1) (t :: u :: r) = .ok (.mk (numVal t) t.line, u :: r) := by
  obtain ⟨he, hs, hl, hn⟩ := tests_at_number hk
  rw [expression]
  simp only [he, hs, hl, Bool.false_eq_true, if_false, isNumberHere, hn, if_true, hu.noErr, hu.noWord, Bool.not_false]

theorem expression_unquoted (f : Nat) {t : Tok} {r : List Tok} (hk : t.kind = .id ∨ t.kind = .plain) {s : String} {l : Nat} {u : Tok} {rest : List Tok}
    (hps : plainString (t :: r) = .ok ((s, l), u :: rest)) (hu : Ends u) : expression (f + 1) (t :: r) = .ok (.mk (.str s) l, u :: rest) := by
  obtain ⟨he, hp, hs, hl, hn, _⟩ := tests_at_word hk
  rw [expression]
  simp only [he, hs, hl, Bool.false_eq_true, if_false, isNumberHere, hn, hp, if_true, permissive_of_plainString _ hps hu]

theorem expression_list (f : Nat) {t : Tok} {r rest : List Tok} {v : EVal} (hk : t.kind = .lbrack) (h : listBody f r = .ok (v, rest)) :
    expression (f + 1) (t :: r) = .ok (.mk v t.line, rest) := by
  rw [expression]; simp only [isErr_false_of_kind hk rfl, hk, h]; rfl

theorem listBody_close (f : Nat) {t : Tok} (r : List Tok) (hk : t.kind = .rbrack) : listBody (f + 1) (t :: r) = .ok (.list [], r) := by
  rw [listBody, peek_kind hk]; rfl

theorem listBody_elements (f : Nat) {t rb : Tok} {r rest : List Tok} {v : EVal} (he : t.isErr = false) (hk : t.kind ≠ .rbrack)
    (h : elements f (t :: r) = .ok (v, rb :: rest)) (hrb : rb.kind = .rbrack) : listBody (f + 1) (t :: r) = .ok (v, rest) := by
  rw [listBody, peek_head he]
  split
  · rename_i e; cases e
  · rename_i e; injection e with e; injection e with e; exact absurd e hk
  · simp only [h, expect_kind hrb]

theorem elements_pairs (f : Nat) {ts rest : List Tok} {kv : List (String × ENode)} (hat : atPair ts = true) (h : tuplePairs f ts = .ok (kv, rest)) :
    elements (f + 1) ts = .ok (.dict kv, rest) := by
  rw [elements]; simp only [hat, if_true, h]

/-! ### behind the first item of `elements`, `tuplePairs`, the argument loop: the end; or a comma, and then the end or the next item -/

theorem elements_end {f : Nat} {ts : List Tok} {e : ENode} {t : Tok} {r : List Tok} (hat : atPair ts = false)
    (hex : expression f ts = .ok (e, t :: r)) (he : t.isErr = false) (hk : t.kind ≠ .comma) :
    elements (f + 1) ts = .ok (.list [e], t :: r) := by
  rw [elements]
  simp only [hat, Bool.false_eq_true, if_false, hex, peek_head he]
  split <;> first | rfl | simp_all

theorem elements_comma_end {f : Nat} {ts : List Tok} {e : ENode} {c t : Tok} {r : List Tok} (hat : atPair ts = false)
    (hex : expression f ts = .ok (e, c :: t :: r)) (hck : c.kind = .comma) (hk : t.kind = .rbrack) :
    elements (f + 1) ts = .ok (.list [e], t :: r) := by
  rw [elements]
  simp only [hat, Bool.false_eq_true, if_false, hex, peek_kind hck, List.drop_succ_cons, List.drop_zero,
    peek_kind hk]

theorem elements_comma_more {f : Nat} {ts : List Tok} {e : ENode} {c t : Tok} {r rest : List Tok} {xs : List ENode} (hat : atPair ts = false)
    (hex : expression f ts = .ok (e, c :: t :: r)) (hck : c.kind = .comma) (he : t.isErr = false) (hk : t.kind ≠ .rbrack)
    (hel : elements f (t :: r) = .ok (.list xs, rest)) : elements (f + 1) ts = .ok (.list (e :: xs), rest) := by
  rw [elements]
  simp only [hat, Bool.false_eq_true, if_false, hex, peek_kind hck, List.drop_succ_cons, List.drop_zero, peek_head he, hel]
  split <;> first | rfl | simp_all

theorem tuplePairs_end {f : Nat} {ts : List Tok} {p : String × ENode} {t : Tok} {r : List Tok}
    (hp : tuplePair ts = .ok (p, t :: r)) (he : t.isErr = false) (hk : t.kind ≠ .comma) : tuplePairs (f + 1) ts = .ok ([p], t :: r) := by
  rw [tuplePairs]
  simp only [hp, peek_head he]
  split <;> first | rfl | simp_all

theorem tuplePairs_comma_end {f : Nat} {ts : List Tok} {p : String × ENode} {c t : Tok} {r : List Tok}
    (hp : tuplePair ts = .ok (p, c :: t :: r)) (hck : c.kind = .comma) (hk : t.kind = .rbrack) : tuplePairs (f + 1) ts = .ok ([p], t :: r) := by
  rw [tuplePairs]
  simp only [hp, peek_kind hck, List.drop_succ_cons, List.drop_zero, peek_kind hk]

theorem tuplePairs_comma_more {f : Nat} {ts : List Tok} {k : String} {v : ENode} {c t : Tok} {r rest : List Tok} {kv : List (String × ENode)}
    (hp : tuplePair ts = .ok ((k, v), c :: t :: r)) (hck : c.kind = .comma) (he : t.isErr = false) (hk : t.kind ≠ .rbrack)
    (h : tuplePairs f (t :: r) = .ok (kv, rest)) : tuplePairs (f + 1) ts = .ok (dictSet kv k v, rest) := by
  rw [tuplePairs]
  simp only [hp, peek_kind hck, List.drop_succ_cons, List.drop_zero, peek_head he, h]
  split <;> first | rfl | simp_all

theorem args_go_close {f : Nat} {ts : List Tok} {a : ANode} {t : Tok} {r : List Tok} (acc : List ANode)
    (ha : argument ts = .ok (a, t :: r)) (hk : t.kind = .rparen) : arguments.go (f + 1) ts acc = .ok ((a :: acc).reverse, r) := by
  rw [arguments.go]
  simp only [ha, peek_kind hk, List.drop_succ_cons, List.drop_zero]

theorem args_go_comma_close {f : Nat} {ts : List Tok} {a : ANode} {c t : Tok} {r : List Tok} (acc : List ANode)
    (ha : argument ts = .ok (a, c :: t :: r)) (hck : c.kind = .comma) (hk : t.kind = .rparen) :
    arguments.go (f + 1) ts acc = .ok ((a :: acc).reverse, r) := by
  rw [arguments.go]
  simp only [ha, peek_kind hck, List.drop_succ_cons, List.drop_zero, peek_kind hk]

theorem args_go_comma_more {f : Nat} {ts : List Tok} {a : ANode} {c t : Tok} {r : List Tok} (acc : List ANode)
    (ha : argument ts = .ok (a, c :: t :: r)) (hck : c.kind = .comma) (he : t.isErr = false) (hk : t.kind ≠ .rparen) :
    arguments.go (f + 1) ts acc = arguments.go f (t :: r) (a :: acc) := by
  rw [arguments.go]
  simp only [ha, peek_kind hck, List.drop_succ_cons, List.drop_zero, peek_head he]
  split <;> first | rfl | simp_all

/-- the value side of `tuplePair`, `STRING | number | permissive`, behind the key `k` of line `line` and the colon: a literal copy of the
model's text from `if u.isErr` on, which is why `tuplePair_quoted` / `tuplePair_unquoted` end in `rfl` -/
def pairValue (k : String) (line : Nat) (u : Tok) (r1 : List Tok) : PR (String × ENode) :=
  if u.isErr then .error (errOf u)
  else if u.kind == .string then .ok ((k, .mk (numVal u) line), r1)
  else
    match isNumberHere (u :: r1) with
    | .error e => .error e
    | .ok true => .ok ((k, .mk (numVal u) line), r1)
    | .ok false =>
      match permissive ((u :: r1).length + 1) (u :: r1) with
      | .error e => .error e
      | .ok ((s, _), rest2) => .ok ((k, .mk (.str s) line), rest2)

theorem tuplePair_quoted {t c u : Tok} {k : String} (r1 : List Tok) (hk : t.kind = .string) (hv : t.val = .str k) (hc : c.kind = .colon) :
    tuplePair (t :: c :: u :: r1) = pairValue k t.line u r1 := by
  unfold tuplePair
  simp only [isErr_false_of_kind hk rfl, Bool.false_eq_true, if_false, hk, beq_self_eq_true, if_true, hv, expect_kind hc]
  rfl

theorem tuplePair_unquoted {t c u : Tok} {r r1 : List Tok} {k : String} {line : Nat} (he : t.isErr = false) (hk : (t.kind == .string) = false)
    (hps : plainString (t :: r) = .ok ((k, line), c :: u :: r1)) (hc : c.kind = .colon) : tuplePair (t :: r) = pairValue k line u r1 := by
  unfold tuplePair
  simp only [he, Bool.false_eq_true, if_false, hk, hps, expect_kind hc]
  rfl

theorem pairValue_string (k : String) (line : Nat) {u : Tok} (r1 : List Tok) (hk : u.kind = .string) :
    pairValue k line u r1 = .ok ((k, .mk (numVal u) line), r1) := by
  unfold pairValue; simp only [isErr_false_of_kind hk rfl, hk]; rfl

theorem pairValue_number (k : String) (line : Nat) {u w : Tok} (r : List Tok) (hk : u.kind = .int ∨ u.kind = .float) (hw : Ends w) :
    pairValue k line u (w :: r) = .ok ((k, .mk (numVal u) line), w :: r) := by
  obtain ⟨he, hs, _, hn⟩ := tests_at_number hk
  unfold pairValue
  simp only [he, hs, Bool.false_eq_true, if_false, isNumberHere, hn, if_true, hw.noErr, hw.noWord, Bool.not_false]

theorem pairValue_unquoted (k : String) (line : Nat) {u w : Tok} {r1 rest : List Tok} {s : String} {l : Nat} (hk : u.kind = .id ∨ u.kind = .plain)
    (hps : plainString (u :: r1) = .ok ((s, l), w :: rest)) (hw : Ends w) : pairValue k line u r1 = .ok ((k, .mk (.str s) line), w :: rest) := by
  obtain ⟨he, _, hs, _, hn, _⟩ := tests_at_word hk
  unfold pairValue
  simp only [he, hs, Bool.false_eq_true, if_false, isNumberHere, hn, permissive_of_plainString _ hps hw]

theorem argument_of {n e : Tok} {r rest : List Tok} {name : String} {v : ENode} (hn : n.kind = .id) (hv : n.val = .str name) (he : e.kind = .equal)
    (h : expression (2 * r.length + 2) r = .ok (v, rest)) : argument (n :: e :: r) = .ok (⟨name, v, n.line⟩, rest) := by
  unfold argument
  simp only [expect_kind hn, expect_kind he, h, hv]

theorem arguments_none {l p : Tok} (r : List Tok) (hl : l.kind = .lparen) (hp : p.kind = .rparen) : arguments (l :: p :: r) = .ok ([], r) := by
  unfold arguments
  simp only [expect_kind hl, peek_kind hp, List.drop_succ_cons, List.drop_zero]

theorem arguments_some {l t : Tok} (r : List Tok) (hl : l.kind = .lparen) (he : t.isErr = false) (hk : t.kind ≠ .rparen) :
    arguments (l :: t :: r) = arguments.go ((t :: r).length + 1) (t :: r) [] := by
  unfold arguments
  simp only [expect_kind hl, peek_head he]
  split <;> first | rfl | simp_all

theorem command_v3 {t e c : Tok} {r rest : List Tok} {rn cn : String} {args : List ANode} (ht : t.kind = .id) (htv : t.val = .str rn)
    (he : e.kind = .equal) (hc : c.kind = .id) (hcv : c.val = .str cn) (h : arguments r = .ok (args, rest)) :
    command (t :: e :: c :: r) = .ok ((⟨some rn, cn, args, c.line⟩, false), rest) := by
  unfold command
  simp only [expect_kind ht, peek_kind he, List.drop_succ_cons, List.drop_zero, expect_kind hc, h, htv,
    hcv]

theorem parse_go_last {f : Nat} {ts : List Tok} {c : CNode} {isV2 : Bool} (acc : List CNode) (v2 : Bool) (h : command ts = .ok ((c, isV2), [])) :
    parseToks.go (f + 1) ts acc v2 = .ok ⟨(c :: acc).reverse, if v2 || isV2 then 2 else 3⟩ := by
  rw [parseToks.go]; simp only [h]

theorem parse_go_more {f : Nat} {ts : List Tok} {c : CNode} {isV2 : Bool} {t : Tok} {r : List Tok} (acc : List CNode) (v2 : Bool)
    (h : command ts = .ok ((c, isV2), t :: r)) : parseToks.go (f + 1) ts acc v2 = parseToks.go f (t :: r) (c :: acc) (v2 || isV2) := by
  rw [parseToks.go]; simp only [h]

end MPilot.Parse
