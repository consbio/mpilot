/-
Lemmas/Plan — the normal form of the 31 data commands.

Every `execute` body is: argument checks that see the inputs only through a `View` (how many, their shapes, element types, and the
whole-array statistics of the first one), then a `Plan`: the inputs (weighted, for the three weighted commands) are folded cell by cell
with a masked binary operation - or stacked and sorted -, and a sequence of masked unary cell operations is applied to the result.
`exec_eq` says so, once, for all commands; a property of all commands is then proved per constructor of `Plan`, not per command.
-/
import MPilot.Lemmas.Stats

namespace MPilot

/-! ### what the checks see -/

/-- all that the argument checks of a data command can tell about its inputs -/
structure View where
  arity : Nat                          -- how many inputs
  shapes : LineRef → Except Err Unit   -- the outcome of `validate_array_shapes`; the line it reports is the caller's to name
  dtype : DType                        -- the promoted element type of all inputs
  dtype₀ : DType                       -- the element type of the first input, which Copy and FuzzyNot keep
  stats : Stats                        -- the whole-array statistics of the first input's present cells

def view (xs : List Arr) : View :=
  ⟨xs.length, (validateShapes · xs), promoteAll xs, (xs.headD default).dtype, stats (xs.headD default).valid⟩

/-! ### what is computed -/

/-- numpy.ma's binary operations -/
inductive BinOp
  | bin (g : Rat → Rat → Rat)
  | div

def BinOp.ap : BinOp → Cell → Cell → Cell
  | .bin g => Cell.bin g
  | .div => Cell.div

/-- numpy.ma's unary operations, as the bodies use them -/
inductive UnOp
  | sc (f : Rat → Rat)
  | divSc (d : Rat)
  | insure (lo hi : Rat)
  | val (f : Rat → Rat)              -- reads `.data`, keeps the mask
  | hide (p : Cell → Rat)            -- every cell missing
  | lin (x1 x2 y1 y2 : Rat)          -- `linMap`

def UnOp.ap : UnOp → Cell → Cell
  | .sc f => Cell.sc f
  | .divSc d => Cell.divSc d
  | .insure lo hi => Cell.insure lo hi
  | .val f => fun c => ⟨f c.val, c.mask⟩
  | .hide p => fun c => ⟨p c, true⟩
  | .lin x1 x2 y1 y2 => fun c => Cell.sc (· + y1) (Cell.divSc (x2 - x1) (Cell.sc (· * (y2 - y1)) (Cell.sc (· - x1) c)))

/-- how the inputs become one array: folded cell by cell, or stacked and each sorted column handed to `φ` -/
inductive Core
  | fold (f : BinOp) (dt : DType)
  | stack (φ : List Rat → Cell)

def Core.run : Core → List Arr → Arr
  | .fold f dt, a :: rest => foldArr f.ap dt a rest
  | .fold _ _, [] => default           -- never run: the checks refuse an empty input list
  | .stack φ, xs => stackMap xs φ

/-- what a body computes once its checks have passed: `core` on the inputs, then the cell maps `post` in order -/
structure Plan where
  core : Core
  post : List UnOp

def Plan.run (p : Plan) (xs : List Arr) : Arr := p.post.foldl (fun r s => r.mapCells s.ap) (p.core.run xs)

/-- the plan of a single-input command: the input with element type `dt` (a fold with nothing to fold), then `post` -/
def Plan.one (dt : DType) (post : List UnOp) : Plan := ⟨.fold (.bin fun x _ => x) dt, post⟩

def Plan.andThen (p : Plan) (s : UnOp) : Plan := ⟨p.core, p.post ++ [s]⟩

theorem Plan.run_andThen (p : Plan) (s : UnOp) (xs : List Arr) : (p.andThen s).run xs = (p.run xs).mapCells s.ap := by
  simp only [Plan.run, Plan.andThen, List.foldl_append, List.foldl_cons, List.foldl_nil]

/-! ### the checks -/

/-- how many inputs a command takes -/
inductive Inputs
  | exactly (k : Nat)
  | weighted (w : List Num)          -- one for each weight
  | any

def DataCmd.inputs : DataCmd → Inputs
  | .aMinusB | .aDividedByB => .exactly 2
  | .weightedSum w | .weightedMean w | .fuzzyWeightedUnion w => .weighted w
  | .sum | .multiply | .minimum | .maximum | .mean | .fuzzyUnion | .fuzzySelectedUnion .. | .fuzzyOr | .fuzzyAnd | .fuzzyXOr => .any
  | _ => .exactly 1

/-- the line `validate_array_shapes` reports -/
def DataCmd.ref : DataCmd → LineRef
  | .fuzzyUnion | .fuzzyWeightedUnion _ | .fuzzySelectedUnion .. | .fuzzyOr | .fuzzyAnd | .fuzzyXOr => .arg "InFieldNames"
  | _ => .cmd

def arityCheck (c : DataCmd) (n : Nat) : Except Err Unit :=
  match c.inputs with
  | .exactly k => if n = k then .ok () else eRaw "Arity"
  | .weighted w => if w.length = n then .ok () else eMp "MismatchedWeights" .none
  | .any => .ok ()

/-- the inputs as the fold sees them: the weighted commands multiply each by its weight first -/
def DataCmd.scaled (c : DataCmd) (xs : List Arr) : List Arr :=
  match c.inputs with
  | .weighted w => List.zipWith scaleArr w xs
  | _ => xs

/-! the cell maps of the single-input bodies -/

def zScoreSteps (sqrt : Rat → Rat) (st : Stats) (tt ft s e : Rat) : List UnOp :=
  match st.mean, st.var with
  | some mean, some var => [.lin (mean + sqrt var * tt) (mean + sqrt var * ft) e s, .insure s e]
  | _, _ => [.hide fun _ => fillValue]

def catSteps (raw normal : List Num) (dflt : Num) : Except Err (List UnOp) :=
  if raw.length != normal.length then eMp "MixedArrayLengths" .cmd
  else if hasDup (raw.map (·.val)) then eMp "DuplicateRawValues" (.arg "RawValues")
  else .ok [.val (catLookup (List.zip raw normal) dflt.val)]

def curveSteps (dupRef : LineRef) (raw normal : List Rat) : Except Err (List UnOp) :=
  if raw.length != normal.length then eMp "MixedArrayLengths" .cmd
  else if hasDup raw then eMp "DuplicateRawValues" dupRef
  else if raw.isEmpty then eRaw "IndexError"
  else .ok [.val (curveAt (sortPairs (List.zip raw normal)))]

def mtmSteps (st : Stats) (ignoreZeros : Bool) (normal : List Num) : Except Err (List UnOp) :=
  match st.mtm ignoreZeros normal with
  | .error e => .error e
  | .ok (raw, nv) => curveSteps .none raw nv

def curveZSteps (sqrt : Rat → Rat) (st : Stats) (z normal : List Num) : Except Err (List UnOp) :=
  if z.length != normal.length then eMp "MixedArrayLengths" .cmd
  else match st.mean, st.var with
    | some mean, some var =>
        if z.isEmpty then eRaw "IndexError"
        else .ok [.val (curveAt (sortPairs (List.zip (z.map fun v => mean + v.val * sqrt var) (normal.map (·.val)))))]
    | _, _ => eRaw "Degenerate"

def toFuzzySteps (st : Stats) (tt ft : Option Num) (highToLow : Bool) : Except Err (List UnOp) :=
  match st.min, st.max with
  | some mn, some mx =>
      let f := numOr ft (if highToLow then mx else mn)
      let t := numOr tt (if highToLow then mn else mx)
      if t == f then eMp "InvalidThresholds" .cmd else .ok [.lin t f 1 (-1)]
  | _, _ =>
      match tt, ft with
      | some t, some f => if t.val == f.val then eMp "InvalidThresholds" .cmd else .ok [.lin t.val f.val 1 (-1)]
      | _, _ => eRaw "Degenerate"

/-- the parameter checks of each command and what it then computes (without the final clamp of the fuzzy producers) -/
def bodyPlan (sqrt : Rat → Rat) : DataCmd → View → Except Err Plan
  | .copy, v => .ok (.one v.dtype₀ [])
  | .aMinusB, v => .ok ⟨.fold (.bin (· - ·)) v.dtype, []⟩
  | .sum, v => .ok ⟨.fold (.bin (· + ·)) v.dtype, []⟩
  | .multiply, v => .ok ⟨.fold (.bin (· * ·)) v.dtype, []⟩
  | .minimum, v | .fuzzyAnd, v => .ok ⟨.fold (.bin ratMin) v.dtype, []⟩
  | .maximum, v | .fuzzyOr, v => .ok ⟨.fold (.bin ratMax) v.dtype, []⟩
  | .weightedSum w, v => .ok ⟨.fold (.bin (· + ·)) (if numsAllInt w then v.dtype else .float), []⟩
  | .aDividedByB, _ => .ok ⟨.fold .div .float, []⟩
  | .mean, v | .fuzzyUnion, v => .ok ⟨.fold (.bin (· + ·)) .float, [.divSc v.arity]⟩
  | .weightedMean w, _ | .fuzzyWeightedUnion w, _ => .ok ⟨.fold (.bin (· + ·)) .float, [.divSc (sumNums w)]⟩
  | .normalize s e, v =>
      .ok (.one .float (match v.stats.min, v.stats.max with
        | some mn, some mx => [.lin mn mx (numOr s 0) (numOr e 1)]
        | _, _ => [.hide Cell.val]))
  | .normalizeZScore tt ft s e, v => .ok (.one .float (zScoreSteps sqrt v.stats (numOr tt 0) (numOr ft 1) (numOr s 0) (numOr e 1)))
  | .cvtToFuzzyZScore tt ft, v => .ok (.one .float (zScoreSteps sqrt v.stats (numOr tt 1) (numOr ft (-1)) (-1) 1))
  | .normalizeCat raw nv d, _ | .cvtToFuzzyCat raw nv d, _ => (catSteps raw nv d).map (.one .float)
  | .normalizeCurve raw nv, _ | .cvtToFuzzyCurve raw nv, _ =>
      (curveSteps (.arg "RawValues") (raw.map (·.val)) (nv.map (·.val))).map (.one .float)
  | .normalizeMeanToMid iz nv, v | .cvtToFuzzyMeanToMid iz nv, v => (mtmSteps v.stats iz nv).map (.one .float)
  | .normalizeCurveZScore z nv, v | .cvtToFuzzyCurveZScore z nv, v => (curveZSteps sqrt v.stats z nv).map (.one .float)
  | .cvtToFuzzy tt ft dir, v =>
      Except.map (.one .float) <| match dir with
      | some d =>
          if d != "" && d != "LowToHigh" && d != "HighToLow" then eMp "InvalidDirection" (.arg "Direction")
          else toFuzzySteps v.stats tt ft (d == "HighToLow")
      | none => toFuzzySteps v.stats tt ft false
  | .cvtToBinary th dir, _ =>
      Except.map (.one .float) <|
      if dir != "LowToHigh" && dir != "HighToLow" then eMp "InvalidDirection" (.arg "Direction")
      else .ok [.val fun x => if x < th.val then (if dir == "LowToHigh" then 0 else 1) else (if dir == "LowToHigh" then 1 else 0)]
  | .fuzzySelectedUnion sel k, v =>
      if (v.arity : Rat) < k.val then eMp "InvalidNumberToConsider" (.arg "NumberToConsider")
      else if sel != "Truest" && sel != "Falsest" then eMp "InvalidTruestOrFalsest" (.arg "TruestOrFalsest")
      else if !k.isInt then eRaw "TypeError"
      else if k.val < 1 then eRaw "NotAdmissible"
      else .ok ⟨.stack (selCell (sel == "Truest") k.val.num.toNat), []⟩
  | .fuzzyXOr, v => if v.arity < 2 then eRaw "IndexError" else .ok ⟨.stack xorCell, []⟩
  | .fuzzyNot, v => .ok (.one v.dtype₀ [.sc fun x => -x])
  | .cvtFromFuzzy tt ft, _ =>
      Except.map (.one .float) <| if tt.val == ft.val then eMp "InvalidThresholds" .cmd else .ok [.lin 1 (-1) tt.val ft.val]

/-- number of inputs, then their shapes, then the command's own checks; fuzzy producers end with `insure_fuzzy(-1, 1)`.  The shape check stands
here for every command; the bodies of the single-input commands have none, and on one input it passes (`validateShapes ref [a] = .ok ()`) -/
def plan (sqrt : Rat → Rat) (c : DataCmd) (v : View) : Except Err Plan := do
  arityCheck c v.arity
  v.shapes c.ref
  let p ← bodyPlan sqrt c v
  pure (if c.isFuzzyProducer then p.andThen (.insure (-1) 1) else p)

/-! ### `exec` is check, then run

Each body computes the steps `bodyPlan` says, makes them a plan and runs it on its input. -/

theorem zScoreBody_eq (sqrt : Rat → Rat) (a : Arr) (tt ft s e : Rat) :
    zScoreBody sqrt a tt ft s e =
      (Except.ok (Plan.one .float (zScoreSteps sqrt (stats a.valid) tt ft s e)) : Except Err Plan).map (Plan.run · [a]) := by
  unfold zScoreBody zScoreSteps stats
  cases meanL a.valid <;> cases varL a.valid <;> rfl

theorem catBody_eq (a : Arr) (raw normal : List Num) (d : Num) :
    catBody a raw normal d = ((catSteps raw normal d).map (Plan.one .float)).map (Plan.run · [a]) := by
  unfold catBody catSteps
  simp only [map_ite]
  rfl

theorem curveBody_eq (ref : LineRef) (a : Arr) (raw normal : List Rat) :
    curveBody ref a raw normal = ((curveSteps ref raw normal).map (Plan.one .float)).map (Plan.run · [a]) := by
  unfold curveBody curveSteps
  simp only [map_ite]
  rfl

theorem meanToMidBody_eq (a : Arr) (iz : Bool) (normal : List Num) :
    meanToMidBody a iz normal = ((mtmSteps (stats a.valid) iz normal).map (Plan.one .float)).map (Plan.run · [a]) := by
  unfold meanToMidBody mtmSteps stats
  dsimp only
  cases mtmPoints a.valid iz normal with
  | error e => rfl
  | ok p => exact curveBody_eq _ a p.1 p.2

theorem curveZBody_eq (sqrt : Rat → Rat) (a : Arr) (z normal : List Num) :
    curveZBody sqrt a z normal = ((curveZSteps sqrt (stats a.valid) z normal).map (Plan.one .float)).map (Plan.run · [a]) := by
  unfold curveZBody curveZSteps stats
  dsimp only
  cases meanL a.valid <;> cases varL a.valid <;> simp only [map_ite] <;> rfl

theorem exec_go_eq (a : Arr) (tt ft : Option Num) (hl : Bool) :
    exec.go a tt ft hl =
      ((toFuzzySteps (stats a.valid) tt ft hl).map (Plan.one .float)).map fun p => (p.run [a]).insure (-1) 1 := by
  unfold exec.go toFuzzySteps stats
  dsimp only
  cases minL a.valid <;> cases maxL a.valid
  case some.some => simp only [map_ite]; rfl
  -- no data to take a threshold from: both have to be given
  all_goals rcases tt with _ | t <;> rcases ft with _ | f <;> [rfl; rfl; rfl; (simp only [map_ite]; rfl)]

/-- a fuzzy producer runs the body of its plain twin and clamps the result -/
theorem fuzzyClamp_of_run {body : Except Err Arr} {x : Except Err Plan} {ys : List Arr} (h : body = x.map (Plan.run · ys)) :
    fuzzyClamp body = x.map fun p => (p.run ys).insure (-1) 1 := by
  subst h; cases x <;> rfl

theorem weightedAcc_eq_run (ws : List Num) (xs : List Arr) (dt : DType) :
    weightedAcc ws xs dt = (Core.fold (.bin (· + ·)) dt).run (List.zipWith scaleArr ws xs) := by
  rcases xs with _ | ⟨a, as⟩ <;> rcases ws with _ | ⟨w, wr⟩ <;> [rfl; rfl; rfl; exact weightedAcc_eq_foldArr w wr a as dt]

theorem validateShapes_bind_congr {ref : LineRef} {xs : List Arr} {f g : Unit → Except Err Arr} (h : ∀ a t, xs = a :: t → f () = g ()) :
    validateShapes ref xs >>= f = validateShapes ref xs >>= g := by
  cases xs with
  | nil => rfl
  | cons a t => exact congrArg _ (funext fun _ => h a t rfl)

theorem plan_run (sqrt : Rat → Rat) (c : DataCmd) (xs ys : List Arr) :
    (plan sqrt c (view xs)).map (·.run ys) =
      arityCheck c xs.length >>= fun _ => validateShapes c.ref xs >>= fun _ =>
        (bodyPlan sqrt c (view xs)).map fun p => if c.isFuzzyProducer then (p.run ys).insure (-1) 1 else p.run ys := by
  unfold plan view
  dsimp only
  cases arityCheck c xs.length <;> try rfl
  cases validateShapes c.ref xs <;> try rfl
  cases bodyPlan sqrt c _ <;> try rfl
  cases c.isFuzzyProducer <;> try rfl
  exact congrArg Except.ok (Plan.run_andThen _ _ _)

/-- The one theorem that looks at all 31 bodies.  With the command known, the right-hand side of `plan_run` computes to the checks of that
command and `exec` to its body, so each arm needs only the fact it names.  Where the body has to be seen, here and in the property files,
`exec` is opened by `dsimp only [exec]`, which unfolds it by computation; `simp only [exec]` and `rw [exec]` make Lean derive the equation
lemmas of `exec` first (31 arms and a catch-all). -/
theorem exec_eq (sqrt : Rat → Rat) (c : DataCmd) (xs : List Arr) :
    exec sqrt c xs = (plan sqrt c (view xs)).map (·.run (c.scaled xs)) := by
  rw [plan_run]
  cases c
  case sum | multiply | minimum | maximum | mean | fuzzyUnion =>
    all_goals exact validateShapes_bind_congr (by rintro a t rfl; rfl)
  case fuzzyOr | fuzzyAnd =>
    all_goals exact (_root_.map_bind _ _ _).trans (validateShapes_bind_congr (by rintro a t rfl; rfl))
  case fuzzySelectedUnion | fuzzyXOr =>
    all_goals exact validateShapes_bind_congr (by rintro a t rfl; simp only [bodyPlan, map_ite]; rfl)
  case weightedSum w | weightedMean w =>
    all_goals
      dsimp only [exec]
      rw [weightedAcc_eq_run]
      exact guard_eq_bind bne_iff_ne _ _
  case fuzzyWeightedUnion w =>
    dsimp only [exec]
    rw [weightedAcc_eq_run]
    exact guard_eq_bind (bne_iff_ne.trans ne_comm) _ _
  -- the promoted type of two inputs is `promoteAll`: `DType.int.promote d = d` for both values of `d`
  case aMinusB | aDividedByB =>
    all_goals rcases xs with _ | ⟨⟨_ | _, _, _⟩, _ | ⟨b, _ | ⟨b', t⟩⟩⟩ <;> rfl
  -- what is left takes one input: with none, or two and more, both sides are the `Arity` error
  all_goals rcases xs with _ | ⟨a, _ | ⟨b, t⟩⟩ <;> [rfl; skip; rfl]
  case copy | fuzzyNot => rfl
  case normalize s e =>
    dsimp only [exec, bodyPlan, view, stats, List.headD_cons]
    cases minL a.valid <;> cases maxL a.valid <;> rfl
  case normalizeZScore => exact zScoreBody_eq ..
  case cvtToFuzzyZScore => exact fuzzyClamp_of_run (zScoreBody_eq ..)
  case normalizeCat => exact catBody_eq ..
  case cvtToFuzzyCat => exact fuzzyClamp_of_run (catBody_eq ..)
  case normalizeCurve => exact curveBody_eq ..
  case cvtToFuzzyCurve => exact fuzzyClamp_of_run (curveBody_eq ..)
  case normalizeMeanToMid => exact meanToMidBody_eq ..
  case cvtToFuzzyMeanToMid => exact fuzzyClamp_of_run (meanToMidBody_eq ..)
  case normalizeCurveZScore => exact curveZBody_eq ..
  case cvtToFuzzyCurveZScore => exact fuzzyClamp_of_run (curveZBody_eq ..)
  case cvtToFuzzy tt ft dir =>
    cases dir with
    | none => exact exec_go_eq ..
    | some d => dsimp only [exec, bodyPlan]; simp only [map_ite]; split <;> [rfl; exact exec_go_eq ..]
  case cvtToBinary | cvtFromFuzzy =>
    all_goals
      dsimp only [exec, bodyPlan]
      simp only [map_ite]
      rfl

end MPilot
