/-
Lemmas/Except — `Except` over any error type: reading a successful outcome backwards through `>>=`, `map` and `if`; `map` across an `if`;
an error guard as a `>>=`.
-/

namespace MPilot

theorem bind_ok {ε α β : Type} {x : Except ε α} {f : α → Except ε β} {b : β}
    (h : (x >>= f) = .ok b) : ∃ a, x = .ok a ∧ f a = .ok b := by
  cases x with
  | error e => cases h
  | ok a => exact ⟨a, rfl, h⟩

theorem map_ok {ε α β : Type} {x : Except ε α} {f : α → β} {b : β} (h : x.map f = .ok b) : ∃ a, x = .ok a ∧ b = f a := by
  cases x with
  | error e => cases h
  | ok a => exact ⟨a, rfl, by injection h with h; exact h.symm⟩

theorem ite_error_eq_ok {ε α : Type} {c : Prop} [Decidable c] {e : ε} {x : Except ε α} {w : α} :
    (if c then .error e else x) = .ok w ↔ ¬c ∧ x = .ok w := by
  by_cases h : c <;> simp [h]

theorem ite_ok_eq_ok {ε α : Type} {c : Prop} [Decidable c] {e : ε} {a w : α} :
    (if c then .ok a else Except.error e) = .ok w ↔ c ∧ a = w := by
  by_cases h : c <;> simp [h]

theorem map_ite {ε α β : Type} (f : α → β) (c : Prop) [Decidable c] (x y : Except ε α) :
    Except.map f (if c then x else y) = if c then x.map f else y.map f := apply_ite _ _ _ _

/-- a guard of a body, `if bad then error`, read as a check to pass; `bad` is any way of writing that `good` fails -/
theorem guard_eq_bind {ε β : Type} {good bad : Prop} [Decidable good] [Decidable bad] (h : bad ↔ ¬good) (e : ε) (x : Except ε β) :
    (if bad then .error e else x) = (if good then Except.ok () else .error e) >>= fun _ => x := by
  by_cases hg : good
  · rw [if_neg fun hb => h.mp hb hg, if_pos hg]; rfl
  · rw [if_pos (h.mpr hg), if_neg hg]; rfl

end MPilot
