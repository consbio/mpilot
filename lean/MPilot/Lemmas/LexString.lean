/-
Lemmas/LexString — how the lexer model reads a quoted string: `scanStringBody` stops at the first closing quote that is not behind a backslash
(`scan_qbody`), and the decoder (`unicode_escape` after `latin-1/backslashreplace`) gives every character other than the backslash back as itself
(`dec_char`), since `hexRun` reads back what `hexN` writes at any width.
-/
import MPilot.Lemmas.Lex

namespace MPilot.C10

/-- the inside of a quoted string as the grammar allows it: characters other than the quote and the backslash, and backslash pairs (the second
character is anything but a line feed - `\"`, `\\`, `\n`, `\x41`, `\u00e9`, `\101` all begin so) -/
inductive QBody (q : Char) : List Char → Prop
  | nil : QBody q []
  | char (c : Char) (cs : List Char) : c ≠ q → c ≠ '\\' → QBody q cs → QBody q (c :: cs)
  | esc (d : Char) (cs : List Char) : d ≠ '\n' → QBody q cs → QBody q ('\\' :: d :: cs)

end MPilot.C10

namespace MPilot.Lex

theorem scanStringBody_close (q : Char) (r acc : List Char) : scanStringBody q (q :: r) acc = some (acc.reverse, r) := by
  rw [scanStringBody.eq_def]; simp

theorem scanStringBody_char {q c : Char} (hq : c ≠ q) (hb : c ≠ '\\') (r acc : List Char) :
    scanStringBody q (c :: r) acc = scanStringBody q r (c :: acc) := by
  rw [scanStringBody.eq_def]; simp [hq, hb]

theorem scanStringBody_esc {q d : Char} (hq : q ≠ '\\') (hd : d ≠ '\n') (r acc : List Char) :
    scanStringBody q ('\\' :: d :: r) acc = scanStringBody q r (d :: '\\' :: acc) := by
  rw [scanStringBody.eq_def]; simp [hq.symm, hd]

theorem scan_qbody {q : Char} (hq : q = '"' ∨ q = '\'') {cs : List Char} (h : C10.QBody q cs) (rest acc : List Char) :
    scanStringBody q (cs ++ q :: rest) acc = some (acc.reverse ++ cs, rest) := by
  have hbq : q ≠ '\\' := by rcases hq with rfl | rfl <;> decide
  induction h generalizing acc with
  | nil => simp [scanStringBody_close]
  | char c cs hcq hb _ ih => rw [List.cons_append, scanStringBody_char hcq hb, ih]; simp
  | esc d cs hd _ ih => rw [List.cons_append, List.cons_append, scanStringBody_esc hbq hd, ih]; simp

theorem qbody_raw {q : Char} {cs : List Char} (h : ∀ c ∈ cs, c ≠ q ∧ c ≠ '\\') : C10.QBody q cs := by
  induction cs with
  | nil => exact .nil
  | cons c t ih =>
    obtain ⟨hc, ht⟩ := List.forall_mem_cons.mp h
    exact .char c t hc.1 hc.2 (ih ht)

theorem countNewlines_cons {c : Char} (hn : c ≠ '\n') (hr : c ≠ '\r') (r : List Char) : countNewlines (c :: r) = countNewlines r := by
  rw [countNewlines]
  exacts [fun _ h _ => hr h, hr, hn]

theorem scanOne_string {q : Char} (hq : q = '"' ∨ q = '\'') {r content rest : List Char} (line : Nat)
    (h : scanStringBody q r [] = some (content, rest)) :
    scanOne (q :: r) line = match stringValue content with
      | .ok v => .tok ⟨.string, .str (String.ofList v), line⟩ rest (line + countNewlines content)
      | .bad => .stop ⟨.errEscape, .none, line⟩
      | .outside => .stop ⟨.errOutside, .none, line⟩ := by
  obtain ⟨hid, hnum, hq⟩ : isIdStart q = false ∧ numStart q = false ∧ (q == '"' || q == '\'') = true := by rcases hq with rfl | rfl <;> decide
  unfold scanOne
  simp only [hid, Bool.false_eq_true, if_false, scanFloat_none r hnum, scanInt_none r hnum, hq, if_true, h]
  cases stringValue content <;> rfl

theorem hexValue_hexDig (d : Nat) (h : d < 16) : hexValue? (hexDig d) = some d := by
  decide +revert

theorem hexN_succ (w n : Nat) : hexN (w + 1) n = hexDig (n / 16 ^ w % 16) :: hexN w n := by
  simp [hexN, List.range_succ]

theorem length_hexN (w n : Nat) : (hexN w n).length = w := by simp [hexN]

/-- reading the `w` digits of `n` onto an accumulator `a`: the digits are those of `n % 16^w`, most significant first -/
theorem foldlM_hexN (w n a : Nat) :
    (hexN w n).foldlM (fun v c => (hexValue? c).map (v * 16 + ·)) a = some (a * 16 ^ w + n % 16 ^ w) := by
  induction w generalizing a with
  | zero => simp [hexN, Nat.mod_one]
  | succ w ih =>
    rw [hexN_succ, List.foldlM_cons, hexValue_hexDig _ (Nat.mod_lt _ (by decide))]
    simp only [Option.map_some, Option.bind_eq_bind, Option.bind_some, ih, Option.some.injEq]
    rw [Nat.mod_pow_succ, Nat.pow_succ, Nat.add_mul, Nat.mul_assoc, Nat.mul_comm 16, Nat.mul_comm (n / 16 ^ w % 16)]
    omega

theorem hexRun_hexN (w n : Nat) (h : n < 16 ^ w) (r : List Char) : hexRun w (hexN w n ++ r) = some (n, r) := by
  have hl := length_hexN w n
  rw [hexRun, if_neg (by simp [hl]), List.take_left' hl, List.drop_left' hl, foldlM_hexN, Nat.mod_eq_of_lt h]
  simp

theorem bsr_append (a b : List Char) : backslashReplace (a ++ b) = backslashReplace a ++ backslashReplace b := by
  simp [backslashReplace]

theorem bsr_pos (c : Char) : 0 < (backslashReplace [c]).length := by
  simp only [backslashReplace, List.flatMap_cons, List.flatMap_nil, List.append_nil]
  split_ifs <;> exact Nat.succ_pos _

theorem dec_plain (fuel : Nat) (c : Char) (r acc : List Char) (h : c ≠ '\\') :
    decodeEscapes (fuel + 1) (c :: r) acc = decodeEscapes fuel r (c :: acc) := by
  rw [decodeEscapes]
  exact h

theorem char_range (c : Char) : ¬(0xD800 ≤ c.toNat ∧ c.toNat ≤ 0xDFFF) ∧ c.toNat ≤ 0x10FFFF := by
  have := c.valid
  unfold Char.toNat
  rcases this with h | ⟨h1, h2⟩ <;> constructor <;> omega

/-- **any character but the backslash comes back as itself**: up to U+00FF it is written as it is, above as `\uXXXX` / `\UXXXXXXXX`, which
the decoder reads as that code point (never a surrogate, never beyond U+10FFFF: it is a `Char`) -/
theorem dec_char (c : Char) (h : c ≠ '\\') (fuel : Nat) (r acc : List Char) :
    decodeEscapes (fuel + 1) (backslashReplace [c] ++ r) acc = decodeEscapes fuel r (c :: acc) := by
  obtain ⟨hs, hm⟩ := char_range c
  simp only [backslashReplace, List.flatMap_cons, List.flatMap_nil, List.append_nil]
  split_ifs with h1 h2
  · exact dec_plain fuel c r acc h
  · rw [List.cons_append, List.cons_append, decodeEscapes, hexRun_hexN 4 _ (by omega)]
    simp only [hs, if_false, Char.ofNat_toNat]
  · rw [List.cons_append, List.cons_append, decodeEscapes, hexRun_hexN 8 _ (by omega)]
    simp only [hs, Nat.not_lt.mpr hm, if_false, Char.ofNat_toNat]

theorem decode_raw (cs : List Char) (h : ∀ c ∈ cs, c ≠ '\\') : ∀ (fuel : Nat) (acc : List Char), (backslashReplace cs).length < fuel →
    decodeEscapes fuel (backslashReplace cs) acc = .ok (acc.reverse ++ cs) := by
  induction cs with
  | nil =>
    intro fuel acc hf
    obtain ⟨f, rfl⟩ := Nat.exists_eq_succ_of_ne_zero (Nat.ne_zero_of_lt hf)
    rw [backslashReplace, List.flatMap_nil, decodeEscapes, List.append_nil]
  | cons c t ih =>
    intro fuel acc hf
    obtain ⟨f, rfl⟩ := Nat.exists_eq_succ_of_ne_zero (Nat.ne_zero_of_lt hf)
    obtain ⟨hc, ht⟩ := List.forall_mem_cons.mp h
    rw [show c :: t = [c] ++ t from rfl, bsr_append] at hf ⊢
    rw [dec_char c hc, ih ht f _ (by have := bsr_pos c; rw [List.length_append] at hf; omega), List.reverse_cons, List.append_assoc]

theorem stringValue_raw {cs : List Char} (h : ∀ c ∈ cs, c ≠ '\\') : stringValue cs = .ok cs := by
  rw [stringValue, decode_raw cs h _ [] (Nat.lt_succ_self _)]; rfl

end MPilot.Lex
