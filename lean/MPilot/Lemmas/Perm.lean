/-
Lemmas/Perm — the lemma set of `validate_array_shapes`: `SameShape`, the check in one line (`validateShapes_eq`), when it passes, and that it
sees only the set of shapes (`validateShapes_congr`), which Rearr, PlanProps, C03 and C07 use as well; and on top of it the input-order
lemmas: the n-ary fold commands give visibly the same outcome for every ordering of their inputs (`validated_perm` is their frame).
-/
import MPilot.Lemmas.Fold
import MPilot.Lemmas.ArrR
import MPilot.Lemmas.List

namespace MPilot

theorem promoteAll_perm {xs xs' : List Arr} (h : xs.Perm xs') : promoteAll xs = promoteAll xs' :=
  haveI : RightCommutative (fun (d : DType) (a : Arr) => d.promote a.dtype) :=
    ⟨fun d a b => by cases d <;> cases a.dtype <;> cases b.dtype <;> rfl⟩
  h.foldl_eq _

theorem promoteAll_congr {xs xs' : List Arr} (h : xs.map (·.dtype) = xs'.map (·.dtype)) : promoteAll xs = promoteAll xs' := by
  have e : ∀ l : List Arr, promoteAll l = (l.map (·.dtype)).foldl DType.promote .int := fun l => List.foldl_map.symm
  rw [e, e, h]

/-- what `validate_array_shapes` accepts of a non-empty list -/
def SameShape (xs : List Arr) : Prop := ∀ x ∈ xs, ∀ y ∈ xs, x.shape = y.shape

instance (xs : List Arr) : Decidable (SameShape xs) := by unfold SameShape; infer_instance

theorem sameShape_cons (a : Arr) (rest : List Arr) : SameShape (a :: rest) ↔ ∀ b ∈ rest, b.shape = a.shape := by
  constructor
  · exact fun h b hb => h b (List.mem_cons_of_mem _ hb) a List.mem_cons_self
  · intro h
    have key : ∀ x ∈ a :: rest, x.shape = a.shape := List.forall_mem_cons.mpr ⟨rfl, h⟩
    exact fun x hx y hy => (key x hx).trans (key y hy).symm

theorem validateShapes_eq (ref : LineRef) (xs : List Arr) :
    validateShapes ref xs =
      if xs = [] then eMp "EmptyInputs" ref else if SameShape xs then .ok () else eMp "MixedArrayShapes" ref := by
  match xs with
  | [] => rfl
  | [a] => rw [if_neg (by simp), if_pos ((sameShape_cons a []).mpr (by simp))]; rfl
  | a :: b :: t =>
    rw [if_neg (by simp)]
    simp only [validateShapes, sameShape_cons a, List.all_eq_true, beq_iff_eq]

theorem validateShapes_ok_iff (ref : LineRef) (xs : List Arr) (hne : xs ≠ []) :
    validateShapes ref xs = .ok () ↔ SameShape xs := by
  rw [validateShapes_eq, if_neg hne]
  split <;> simp [*, eMp]

theorem validateShapes_congr (ref : LineRef) {xs xs' : List Arr} (h : ∀ s, s ∈ xs.map (·.shape) ↔ s ∈ xs'.map (·.shape)) :
    validateShapes ref xs = validateShapes ref xs' := by
  have hs : ∀ l : List Arr, SameShape l ↔ ∀ s ∈ l.map (·.shape), ∀ s' ∈ l.map (·.shape), s = s' := fun l => by
    simp only [SameShape, List.forall_mem_map]
  have hn : ∀ l : List Arr, l = [] ↔ ∀ s, s ∉ l.map (·.shape) := fun l => by
    rw [← List.eq_nil_iff_forall_not_mem, List.map_eq_nil_iff]
  rw [validateShapes_eq, validateShapes_eq]
  exact if_congr (by simp only [hn, h]) rfl (if_congr (by simp only [hs, h]) rfl rfl)

theorem validateShapes_perm (ref : LineRef) {xs xs' : List Arr} (h : xs.Perm xs') :
    validateShapes ref xs = validateShapes ref xs' :=
  validateShapes_congr ref fun _ => (h.map _).mem_iff

/-- the frame of every input-order theorem: shapes are validated first - a check that does not depend on the order - and what runs afterwards
may assume inputs that are there and have one shape -/
theorem validated_perm (ref : LineRef) {xs xs' : List Arr} (h : xs.Perm xs') {body body' : Unit → Except Err Arr}
    (hb : xs ≠ [] → SameShape xs → ExceptR (body ()) (body' ())) :
    ExceptR (validateShapes ref xs >>= body) (validateShapes ref xs' >>= body') := by
  rw [← validateShapes_perm ref h, validateShapes_eq]
  split
  · exact ExceptR.eMp _ _
  · rename_i hne
    split
    · rename_i hs; exact hb hne hs
    · exact ExceptR.eMp _ _

theorem perm_column {xs xs' : List Arr} (h : xs.Perm xs') (i : Nat) : (column xs i).Perm (column xs' i) := h.map _

/-- `foldArr` over a permuted operand list gives visibly the same array: the column is permuted, its fold is not changed -/
theorem foldArr_perm (g : Rat → Rat → Rat) (hc : ∀ a b, g a b = g b a) (ha : ∀ a b c, g (g a b) c = g a (g b c))
    (dt : DType) {a a' : Arr} {t t' : List Arr} (h : (a :: t).Perm (a' :: t')) (n : Nat)
    (hn : ∀ x ∈ a :: t, x.cells.length = n) (hs : SameShape (a :: t)) :
    ArrR (foldArr (Cell.bin g) dt a t) (foldArr (Cell.bin g) dt a' t') := by
  have hn' : ∀ x ∈ a' :: t', x.cells.length = n := fun x hx => hn x (h.mem_iff.mpr hx)
  refine ⟨by rw [foldArr_dtype, foldArr_dtype], ?_, ?_⟩
  · rw [foldArr_shape, foldArr_shape]; exact hs a List.mem_cons_self a' (h.mem_iff.mpr List.mem_cons_self)
  refine forall2_cellR_of_cellAt (foldArr_length _ dt a t n hn) (foldArr_length _ dt a' t' n hn') fun i hi =>
    ⟨_, _, foldArr_cellAt g dt a t i (fun x hx => (hn x hx).symm ▸ hi), ?_⟩
  rw [(perm_column h i).any_eq, fold1_perm g hc ha ((perm_column h i).map _)]
  exact foldArr_cellAt g dt a' t' i (fun x hx => (hn' x hx).symm ▸ hi)

theorem stackCell_perm (f : List Rat → Cell) {xs xs' : List Arr} (h : xs.Perm xs') (i : Nat) :
    stackCell xs f i = stackCell xs' f i := by
  unfold stackCell
  have hc := perm_column h i
  rw [hc.any_eq, sortRat_perm (hc.map _)]

theorem stackMap_perm (f : List Rat → Cell) {xs xs' : List Arr} (h : xs.Perm xs') (hne : xs ≠ []) (n : Nat)
    (hn : ∀ x ∈ xs, x.cells.length = n) (hs : SameShape xs) : stackMap xs f = stackMap xs' f := by
  obtain ⟨a, t, a', t', rfl, rfl⟩ := exists_cons_cons_of_perm h hne
  have ha' : a' ∈ a :: t := h.mem_iff.mpr List.mem_cons_self
  exact stackMap_congr (hs a List.mem_cons_self a' ha') ((hn a List.mem_cons_self).trans (hn a' ha').symm) (stackCell_perm f h)

theorem naryFold_perm (ref : LineRef) (g : Rat → Rat → Rat) (hc : ∀ a b, g a b = g b a)
    (ha : ∀ a b c, g (g a b) c = g a (g b c)) {xs xs' : List Arr} (h : xs.Perm xs') (n : Nat)
    (hn : ∀ x ∈ xs, x.cells.length = n) : ExceptR (naryFold ref g xs) (naryFold ref g xs') := by
  unfold naryFold
  rw [← promoteAll_perm h]
  refine validated_perm ref h fun hne hs => ?_
  obtain ⟨a, t, a', t', rfl, rfl⟩ := exists_cons_cons_of_perm h hne
  exact foldArr_perm g hc ha _ h n hn hs

theorem numsAllInt_perm {ws ws' : List Num} (h : ws.Perm ws') : numsAllInt ws = numsAllInt ws' :=
  h.all_eq

theorem sumNums_perm {ws ws' : List Num} (h : ws.Perm ws') : sumNums ws = sumNums ws' := by
  unfold sumNums
  rw [sumL_eq_sum, sumL_eq_sum]
  exact (h.map _).sum_eq

/-- the weighted accumulation over permuted (weight, input) pairs: visibly the same array - it is the fold of additions over the scaled
inputs, and those are permuted -/
theorem weightedAcc_perm {ws ws' : List Num} {xs xs' : List Arr} (hl : ws.length = xs.length) (hl' : ws'.length = xs'.length)
    (h : (ws.zip xs).Perm (ws'.zip xs')) (n : Nat) (hn : ∀ x ∈ xs, x.cells.length = n) (hne : xs ≠ []) (hs : SameShape xs) (dt : DType) :
    ArrR (weightedAcc ws xs dt) (weightedAcc ws' xs' dt) := by
  have hmem : ∀ y ∈ List.zipWith scaleArr ws xs, ∃ w x, x ∈ xs ∧ y = scaleArr w x := by
    intro y hy
    rw [← List.map_uncurry_zip_eq_zipWith, List.mem_map] at hy
    obtain ⟨p, hp, rfl⟩ := hy
    exact ⟨p.1, p.2, (List.of_mem_zip hp).2, rfl⟩
  have hsc : (List.zipWith scaleArr ws xs).Perm (List.zipWith scaleArr ws' xs') := by
    rw [← List.map_uncurry_zip_eq_zipWith, ← List.map_uncurry_zip_eq_zipWith]; exact h.map _
  obtain ⟨a, t, a', t', rfl, rfl⟩ := exists_cons_cons_of_perm (perm_of_zip_perm hl hl' h).2 hne
  obtain ⟨w, wr, rfl⟩ := List.exists_cons_of_length_eq_add_one hl
  obtain ⟨w', wr', rfl⟩ := List.exists_cons_of_length_eq_add_one hl'
  rw [weightedAcc_eq_foldArr, weightedAcc_eq_foldArr]
  refine foldArr_perm (· + ·) add_comm add_assoc dt hsc n (fun y hy => ?_) (fun y hy z hz => ?_)
  · obtain ⟨_, x, hx, rfl⟩ := hmem y hy
    simpa [scaleArr, Arr.mapCells] using hn x hx
  · obtain ⟨_, x, hx, rfl⟩ := hmem y hy
    obtain ⟨_, x', hx', rfl⟩ := hmem z hz
    exact hs x hx x' hx'

end MPilot
