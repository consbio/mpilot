/-
Lemmas/Load — what loading (`addCommand`, `fromNodes`), the pre-pass of `Program.run` (`prepassCmd`, `prepass`) and `run` itself end with,
from which C11 reads off the line an error carries, C12 when a model is accepted, C13 which errors there are.  `addCommand` has a statement for
each outcome, the other functions one for both; of `fromNodes` only the step of a success is here: how it fails is `C11.load_error_line`.
-/
import MPilot.Lemmas.Except
import Mathlib.Data.List.Basic
import MPilot.Model.Program

namespace MPilot

theorem Program.find?_isSome_iff (p : Program) (n : String) : (p.find? n).isSome = true ↔ ∃ c ∈ p.cmds, c.resultName = n := by
  simp [Program.find?]

theorem Program.find?_of_mem {p : Program} {c : PCmd} (h : c ∈ p.cmds) : (p.find? c.resultName).isSome = true :=
  (p.find?_isSome_iff _).mpr ⟨c, h, rfl⟩

theorem any_missing_iff (decl : CmdDecl) (args : List Arg) :
    ((decl.inputs.filter (·.required)).any fun i => !(args.any (·.name == i.name))) = true ↔
      ∃ i ∈ decl.inputs, i.required = true ∧ ∀ a ∈ args, a.name ≠ i.name := by
  simp

theorem find?_undeclared_eq_none (decl : CmdDecl) (args : List Arg) :
    args.find? (fun a => (decl.input? a.name).isNone && !decl.allowExtra) = none ↔
      decl.allowExtra = true ∨ ∀ a ∈ args, (decl.input? a.name).isSome = true := by
  cases decl.allowExtra <;> simp [Option.isSome_iff_ne_none]

namespace C12

/-- a command as written is acceptable to `add_command` -/
def CmdOK (p : Program) (decl : CmdDecl) (resultName : String) (args : List Arg) : Prop :=
  (p.find? resultName).isSome = false ∧
  (∀ i ∈ decl.inputs, i.required = true → ∃ a ∈ args, a.name = i.name) ∧
  (decl.allowExtra = true ∨ ∀ a ∈ args, (decl.input? a.name).isSome = true)

end C12

theorem addCommand_eq_ok (p p' : Program) (decl : CmdDecl) (rn : String) (args : List Arg) (line : Option Nat) :
    addCommand p decl rn args line = .ok p' ↔
      C12.CmdOK p decl rn args ∧ p' = { p with cmds := p.cmds ++ [⟨rn, decl, args, line⟩] } := by
  rw [addCommand, C12.CmdOK, ite_error_eq_ok, ite_error_eq_ok, any_missing_iff, ← find?_undeclared_eq_none, and_assoc, and_assoc]
  cases args.find? (fun a => (decl.input? a.name).isNone && !decl.allowExtra) <;> simp [@eq_comm _ p']

/-- from a failure back to its cause (`C12.addCommand_errors` goes from the cause to the error) -/
theorem addCommand_error (p : Program) (decl : CmdDecl) (rn : String) (args : List Arg) (line : Option Nat) (e : PErr)
    (h : addCommand p decl rn args line = .error e) :
    e = .mp "DuplicateResult" line ∨ e = .mp "MissingParameters" line ∨
      ∃ a ∈ args, decl.input? a.name = none ∧ e = .mp "NoSuchParameter" a.line := by
  unfold addCommand at h
  split at h
  · cases h; exact .inl rfl
  · split at h
    · cases h; exact .inr (.inl rfl)
    · split at h <;> cases h
      rename_i a ha
      have hp := List.find?_some ha
      rw [Bool.and_eq_true, Option.isNone_iff_eq_none] at hp
      exact .inr (.inr ⟨a, List.mem_of_find?_eq_some ha, hp.1, rfl⟩)

theorem fromNodes_cons_eq_ok (lib : String → Option CmdDecl) (p q : Program) (n : Node) (rest : List Node) :
    fromNodes lib p (n :: rest) = .ok q ↔ ∃ decl p', lib n.command = some decl ∧
      addCommand p decl n.resultName (dedupArgs n.args) n.line = .ok p' ∧ fromNodes lib p' rest = .ok q := by
  rw [fromNodes]
  cases lib n.command with
  | none => simp
  | some decl => cases h : addCommand p decl n.resultName (dedupArgs n.args) n.line <;> simp [h]

/-- of a success only what it says about the arguments (every declared one cleans): the reference lists returned are not described -/
theorem prepassCmd_outcome (ctx : Ctx) (c : PCmd) : ∀ args : List Arg,
    (∀ r, prepassCmd ctx c args = .ok r → ∀ a ∈ args, ∀ i, c.decl.input? a.name = some i → ∃ w, clean ctx i.spec a.value = .ok w) ∧
    (∀ e, prepassCmd ctx c args = .error e →
      ∃ a ∈ args, ∃ i ce, c.decl.input? a.name = some i ∧ clean ctx i.spec a.value = .error ce ∧ e = cleanErrToPErr ce a.line)
  | [] => ⟨fun _ _ _ h => (nomatch h), fun _ h => nomatch h⟩
  | a :: rest => by
    have ih := prepassCmd_outcome ctx c rest
    rw [prepassCmd]
    cases hi : c.decl.input? a.name with
    | none => exact ⟨fun r h => List.forall_mem_cons.mpr ⟨fun i hi' => (by rw [hi] at hi'; cases hi'), ih.1 r h⟩, fun e h => List.exists_mem_cons_of_exists (ih.2 e h)⟩
    | some i =>
      dsimp only
      cases hc : clean ctx i.spec a.value with
      | error ce => exact ⟨fun _ h => (nomatch h), fun e h => by cases h; exact ⟨a, List.mem_cons_self, i, ce, hi, hc, rfl⟩⟩
      | ok v =>
        dsimp only
        cases hr : prepassCmd ctx c rest with
        | error e' => exact ⟨fun _ h => (nomatch h), fun e h => by cases h; exact List.exists_mem_cons_of_exists (ih.2 e' hr)⟩
        | ok r =>
          refine ⟨fun _ _ => List.forall_mem_cons.mpr ⟨fun i' hi' => ⟨v, ?_⟩, ih.1 r hr⟩, fun e h => ?_⟩
          · rw [hi] at hi'; cases hi'; exact hc
          · dsimp only at h; split at h <;> cases h

theorem prepass_outcome (ctx : Ctx) : ∀ cmds : List PCmd,
    (∀ info, prepass ctx cmds = .ok info → ∀ c ∈ cmds, ∃ r, prepassCmd ctx c c.args = .ok r) ∧
    (∀ e, prepass ctx cmds = .error e → ∃ c ∈ cmds, prepassCmd ctx c c.args = .error e) := by
  intro cmds
  fun_induction prepass ctx cmds with
  | case1 => exact ⟨fun _ _ _ h => (nomatch h), nofun⟩
  | case2 c rest e hc => exact ⟨nofun, fun _ h => by cases h; exact ⟨c, List.mem_cons_self, hc⟩⟩
  | case3 c rest d al hc e hr ih => exact ⟨nofun, fun _ h => by cases h; exact List.exists_mem_cons_of_exists (ih.2 e hr)⟩
  | case4 c rest d al hc t hr ih => exact ⟨fun _ _ => List.forall_mem_cons.mpr ⟨⟨_, hc⟩, ih.1 t hr⟩, nofun⟩

theorem run_outcome {Val : Type} (sem : Sem Val) (p : Program) (st : St Val) :
    (∃ e, prepass (mkCtx sem p st) p.cmds = .error e ∧ run sem p st = (st, some e)) ∨
    (∃ info, prepass (mkCtx sem p st) p.cmds = .ok info ∧ hasCycle p (depsOf info) = true ∧ run sem p st = (st, some (.mp "RecursiveModelStructure" none))) ∨
    (∃ info, prepass (mkCtx sem p st) p.cmds = .ok info ∧ hasCycle p (depsOf info) = false ∧ run sem p st = run.go sem p (leavesOf p info) st) := by
  unfold run
  cases prepass (mkCtx sem p st) p.cmds with
  | error e => exact .inl ⟨e, rfl, rfl⟩
  | ok info => cases hc : hasCycle p (depsOf info) <;> simp [hc]

end MPilot
