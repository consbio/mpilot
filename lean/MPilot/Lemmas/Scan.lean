/-
Lemmas/Scan — what one scanning step of the lexer model consumes, said once: `scanOne_step`.

Every rule of `scanOne` takes a non-empty prefix off the text and moves the line counter by the line breaks it counts in that prefix
(`Ate`).  That the lexer's fuel suffices (Lemmas/Lex), that lines never decrease along the token stream (Props/C11) and that in an LF / CRLF
text a token's line is exactly one more than the number of line feeds before it (Props/C11Exact) are three readings of this one fact.
-/
import MPilot.Model.Lexer
import MPilot.Lemmas.List
import Mathlib.Data.List.TakeWhile

namespace MPilot.Lex

/-- `rest` is `cs` behind at least `k` characters, none of them a line feed -/
def Eats (k : Nat) (cs rest : List Char) : Prop := ∃ pre, cs = pre ++ rest ∧ k ≤ pre.length ∧ '\n' ∉ pre

theorem Eats.refl (cs : List Char) : Eats 0 cs cs := ⟨[], rfl, Nat.le_refl _, by simp⟩

theorem Eats.trans {j k : Nat} {a b c : List Char} (h1 : Eats j a b) (h2 : Eats k b c) : Eats (j + k) a c := by
  obtain ⟨p, rfl, hp, hpn⟩ := h1
  obtain ⟨q, rfl, hq, hqn⟩ := h2
  exact ⟨p ++ q, by simp, by simp; omega, by simp [hpn, hqn]⟩

theorem Eats.one {c : Char} (r : List Char) (hc : c ≠ '\n') : Eats 1 (c :: r) r :=
  ⟨[c], rfl, Nat.le_refl _, by simpa using hc.symm⟩

theorem Eats.mono {j k : Nat} {a b : List Char} (h : Eats k a b) (hj : j ≤ k) : Eats j a b := by
  obtain ⟨p, e, hp, hn⟩ := h
  exact ⟨p, e, Nat.le_trans hj hp, hn⟩

theorem Eats.length_le {k : Nat} {cs rest : List Char} (h : Eats k cs rest) : rest.length + k ≤ cs.length := by
  obtain ⟨p, rfl, hp, _⟩ := h
  simp; omega

theorem span_eats (p : Char → Bool) (hp : p '\n' = false) {cs w rest : List Char} (h : cs.span p = (w, rest)) : Eats w.length cs rest := by
  obtain ⟨h1, h2, _⟩ := span_spec p h
  exact ⟨_, h1, Nat.le_refl _, fun hm => by rw [h2 _ hm] at hp; cases hp⟩

theorem spanDigits_eats {cs ds rest : List Char} (h : spanDigits cs = (ds, rest)) : Eats ds.length cs rest := span_eats isDig (by decide) h

theorem optSign_eats (cs : List Char) : Eats 0 cs (optSign cs).2 := by
  unfold optSign
  split
  · exact (Eats.one _ (by decide)).mono (Nat.zero_le _)
  · exact (Eats.one _ (by decide)).mono (Nat.zero_le _)
  · exact Eats.refl _

/-- at least one character is consumed: a mantissa holds its point -/
theorem scanMantissa_eats {r0 ip fp r3 : List Char} (h : scanMantissa r0 = some (ip, fp, r3)) : Eats 1 r0 r3 := by
  unfold scanMantissa at h
  generalize hsp : spanDigits r0 = sp at h
  obtain ⟨ip0, r1⟩ := sp
  have point : ∀ r2, r1 = '.' :: r2 → Eats 1 r0 (spanDigits r2).2 := fun r2 e =>
    ((spanDigits_eats hsp).trans ((e ▸ Eats.one r2 (by decide)).trans (spanDigits_eats rfl))).mono (by omega)
  dsimp only at h
  split at h <;> split at h
  · cases h; exact point _ rfl
  · cases h
  · split at h
    · cases h
    · cases h; exact point _ rfl
  · cases h

theorem scanExponent_eats (r3 : List Char) : Eats 0 r3 (scanExponent r3).2 := by
  cases r3 with
  | nil => exact Eats.refl _
  | cons c r4 =>
    rw [scanExponent]
    by_cases hc : (c == 'e' || c == 'E') = true
    · rw [if_pos hc]
      have hcn : c ≠ '\n' := by rintro rfl; simp at hc
      dsimp only
      split
      · exact Eats.refl _
      · exact ((Eats.one r4 hcn).trans ((optSign_eats r4).trans (spanDigits_eats rfl))).mono (Nat.zero_le _)
    · rw [if_neg hc]; exact Eats.refl _

theorem scanFloat_eats {cs : List Char} {v : Option Rat} {rest : List Char} (h : scanFloat cs = some (v, rest)) : Eats 1 cs rest := by
  unfold scanFloat at h
  dsimp only at h
  split at h
  · cases h
  · rename_i ip fp r3 hm
    -- in range or not, the rest is what the exponent phase leaves: it is projected out, since the value is carried through the `if` on the range
    have hr := congrArg (Option.map Prod.snd) h
    rw [apply_ite (Option.map Prod.snd)] at hr
    simp only [Option.map_some, ite_self, Option.some.injEq] at hr
    exact hr ▸ ((optSign_eats cs).trans ((scanMantissa_eats hm).trans (scanExponent_eats r3))).mono (by omega)

/-- at least one character is consumed: an integer has a digit -/
theorem scanInt_eats {cs : List Char} {n : Int} {rest : List Char} (h : scanInt cs = some (n, rest)) : Eats 1 cs rest := by
  unfold scanInt at h
  dsimp only at h
  split at h
  · cases h
  · rename_i hne
    cases h
    have hl := List.length_pos_iff.mpr (mt List.isEmpty_iff.mpr hne)
    exact ((optSign_eats cs).trans (spanDigits_eats rfl)).mono (Nat.le_trans hl (Nat.le_add_left _ _))

end MPilot.Lex

namespace MPilot.C11X

/-- the body of a quoted string: exactly the characters between the quotes -/
theorem scanStringBody_spec (q : Char) : ∀ (r acc content rest : List Char), scanStringBody q r acc = some (content, rest) →
    ∃ mid, content = acc.reverse ++ mid ∧ r = mid ++ q :: rest := by
  intro r acc content rest h
  fun_induction scanStringBody q r acc with
  | case1 => cases h
  | case2 c r acc hq => cases h; exact ⟨[], by simp, by simp [eq_of_beq hq]⟩
  | case3 => cases h
  | case4 c acc hq hc d r' hd ih =>
    obtain ⟨mid, h1, h2⟩ := ih h
    exact ⟨c :: d :: mid, by simp [h1, eq_of_beq hc], by simp [h2]⟩
  | case5 => cases h
  | case6 c r acc hq hc ih =>
    obtain ⟨mid, h1, h2⟩ := ih h
    exact ⟨c :: mid, by simp [h1], by simp [h2]⟩

end MPilot.C11X

namespace MPilot.Lex

/-- what a scanning step has consumed and by how much it has moved the line counter: a stretch without line feed counts nothing, a quoted
string counts the line breaks between its quotes, a run of line ends - maximal: no line feed follows it - counts its own -/
inductive Ate : List Char → List Char → Nat → Prop
  | flat {cs rest : List Char} : Eats 1 cs rest → Ate cs rest 0
  | quoted {q : Char} {content rest : List Char} : q ≠ '\n' → Ate (q :: (content ++ q :: rest)) rest (countNewlines content)
  | breaks {run rest : List Char} : run ≠ [] → (∀ d r, rest = d :: r → d ≠ '\n') → Ate (run ++ rest) rest (countNewlines run)

theorem Ate.lt {cs rest : List Char} {n : Nat} (h : Ate cs rest n) : rest.length < cs.length := by
  cases h with
  | flat h => have := h.length_le; omega
  | quoted => simp; omega
  | breaks hne => have := List.length_pos_iff.mpr hne; simp; omega

/-- what a scanning step from `cs` at line `line` may end in: a token carries `line`; the counter moves on by what `Ate` counts -/
def Step (cs : List Char) (line : Nat) : Scan → Prop
  | .tok t rest line' => t.line = line ∧ ∃ n, Ate cs rest n ∧ line' = line + n
  | .skip rest line' => ∃ n, Ate cs rest n ∧ line' = line + n
  | .stop t => t.line = line

theorem scanOne_step (c : Char) (r : List Char) (line : Nat) : Step (c :: r) line (scanOne (c :: r) line) := by
  have flat : ∀ {rest}, Eats 1 (c :: r) rest → ∃ n, Ate (c :: r) rest n ∧ line = line + n := fun h => ⟨0, .flat h, rfl⟩
  rw [scanOne]
  -- rule by rule, in the model's order: the arms in which a rule matches are closed in bullets, the arm in which it does not goes on below;
  -- the tests by `by_cases`, which leaves the rules behind the test folded
  by_cases hid : isIdStart c = true  -- ID
  · rw [if_pos hid]
    have hc : c ≠ '\n' := by rintro rfl; simp [isIdStart] at hid
    exact ⟨rfl, flat (((Eats.one r hc).trans (span_eats isIdCont (by decide) rfl)).mono (by omega))⟩
  rw [if_neg hid]
  split  -- FLOAT
  · exact rfl  -- out of range: stop
  · rename_i hf; exact ⟨rfl, flat (scanFloat_eats hf)⟩
  split  -- INT
  · rename_i hi; exact ⟨rfl, flat (scanInt_eats hi)⟩
  split  -- STRING
  · rename_i content rest hs
    split at hs
    · rename_i hq
      have hcn : c ≠ '\n' := by rintro rfl; simp at hq
      obtain ⟨mid, h1, h2⟩ := C11X.scanStringBody_spec c r [] content rest hs
      simp only [List.reverse_nil, List.nil_append] at h1
      subst h1 h2
      split  -- the decoder's verdict: a token, or stop (bad escape, outside the model)
      · exact ⟨rfl, _, .quoted hcn, rfl⟩
      · exact rfl
      · exact rfl
    · cases hs
  by_cases hnl : (c == '\r' || c == '\n') = true  -- a run of line ends
  · rw [if_pos hnl]
    generalize hsp : (c :: r).span (fun d => d == '\r' || d == '\n') = sp
    obtain ⟨run, rest⟩ := sp
    obtain ⟨h1, _, h3⟩ := span_spec _ hsp
    rw [h1]
    refine ⟨_, .breaks ?_ (fun d r' hr => by have := h3 d r' hr; simp at this; exact this.2), rfl⟩
    rintro rfl
    have := span_cons_pos (fun d => d == '\r' || d == '\n') r hnl
    rw [hsp] at this
    cases this
  rw [if_neg hnl]
  have hcn : c ≠ '\n' := by rintro rfl; simp at hnl
  by_cases hp : (!isPlainStop c) = true  -- PLAIN_STRING
  · rw [if_pos hp]
    exact ⟨rfl, flat ((span_eats _ (by decide) rfl).mono (span_cons_pos (fun d => !isPlainStop d) r hp))⟩
  rw [if_neg hp]
  by_cases hh : (c == '#') = true  -- a comment
  · rw [if_pos hh]
    obtain rfl : c = '#' := by simpa using hh
    refine flat ⟨('#' :: r).takeWhile (· != '\n'), List.takeWhile_append_dropWhile.symm, ?_, fun hm => ?_⟩
    · rw [List.takeWhile_cons_of_pos (by decide)]; simp
    · simpa using List.mem_takeWhile_imp hm
  rw [if_neg hh]
  split  -- a punctuation mark, or the illegal character
  · exact ⟨rfl, flat (Eats.one r hcn)⟩
  · exact rfl

theorem step_tok {c : Char} {r : List Char} {line : Nat} {t : Tok} {rest : List Char} {line' : Nat}
    (h : scanOne (c :: r) line = .tok t rest line') : t.line = line ∧ ∃ n, Ate (c :: r) rest n ∧ line' = line + n := by
  have hs := scanOne_step c r line; rwa [h] at hs

theorem step_skip {c : Char} {r : List Char} {line : Nat} {rest : List Char} {line' : Nat}
    (h : scanOne (c :: r) line = .skip rest line') : ∃ n, Ate (c :: r) rest n ∧ line' = line + n := by
  have hs := scanOne_step c r line; rwa [h] at hs

theorem step_stop {c : Char} {r : List Char} {line : Nat} {t : Tok} (h : scanOne (c :: r) line = .stop t) : t.line = line := by
  have hs := scanOne_step c r line; rwa [h] at hs

end MPilot.Lex
