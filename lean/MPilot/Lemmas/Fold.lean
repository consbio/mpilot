/-
Lemmas/Fold — the accumulation loops of the n-ary commands (`foldArr`, `weightedAcc`, `stackMap`): what every round keeps (`foldArr_ind`),
what they leave in one cell as a function of the column of input cells (`CellAt`), and that a fold of a commutative, associative operation
does not depend on the order of the column.
-/
import MPilot.Lemmas.Cells
import MPilot.Lemmas.Except
import MPilot.Lemmas.List
import MPilot.Lemmas.Order
import Mathlib.Data.List.Perm.Basic
import Mathlib.Data.List.Sort
import Mathlib.Algebra.BigOperators.Group.List.Basic

namespace MPilot

/-- the value the bodies' loop `result = first; for x in rest: result = g(result, x)` leaves; a column is never empty, the `0` for `[]` is a dummy -/
def fold1 (g : Rat → Rat → Rat) : List Rat → Rat
  | [] => 0
  | x :: xs => xs.foldl g x

@[simp]
theorem fold1_cons (g : Rat → Rat → Rat) (x : Rat) (xs : List Rat) : fold1 g (x :: xs) = xs.foldl g x := rfl

/-! ### one cell of a result

`CellAt r i m v` is the form every cell-by-cell specification of a command has.  It is kept by each array operation of the
bodies (`bin`, `sc`, `divSc`, `insure`), so it serves as the invariant of their accumulation loops, and a specification is
read off by composing these lemmas along the body. -/

/-- cell `i` of `r` exists, is missing exactly when `m`, and when present holds `v` -/
def CellAt (r : Arr) (i : Nat) (m : Bool) (v : Rat) : Prop :=
  ∃ c, r.cells[i]? = some c ∧ c.mask = m ∧ (c.mask = false → c.val = v)

theorem cellAt_of_lt {a : Arr} {i : Nat} (h : i < a.cells.length) :
    CellAt a i (a.cells.getD i default).mask (a.cells.getD i default).val := by
  have hd : a.cells.getD i default = a.cells[i] := (List.getElem_eq_getD default).symm
  exact ⟨a.cells[i], List.getElem?_eq_getElem h, by rw [hd], fun _ => by rw [hd]⟩

theorem CellAt.map {r : Arr} {i : Nat} {m : Bool} {v : Rat} (h : CellAt r i m v) {f : Cell → Cell} {φ : Option Rat → Option Rat}
    (hf : ∀ c, (f c).vis = φ c.vis) {m' : Bool} {v' : Rat} (hφ : φ (if m then none else some v) = if m' then none else some v') :
    CellAt (r.mapCells f) i m' v' := by
  obtain ⟨c, hc, hmv⟩ := h
  refine ⟨f c, by simp [Arr.mapCells, hc], (Cell.vis_eq_iff _ _ _).mp ?_⟩
  rw [hf, (Cell.vis_eq_iff c m v).mpr hmv, hφ]

theorem CellAt.insure {r : Arr} {i : Nat} {m : Bool} {v : Rat} (h : CellAt r i m v) (lo hi : Rat) :
    CellAt (r.insure lo hi) i m (clampHiLo lo hi v) :=
  h.map (Cell.insure_vis lo hi) (by cases m <;> rfl)

theorem CellAt.divSc {r : Arr} {i : Nat} {m : Bool} {v : Rat} (h : CellAt r i m v) (d : Rat) :
    CellAt (r.mapCells (Cell.divSc d)) i (m || d == 0) (v / d) :=
  h.map (φ := fun o => if d == 0 then none else o.map (· / d)) (Cell.divSc_vis d) (by cases m <;> cases d == 0 <;> rfl)

theorem CellAt.sc {r : Arr} {i : Nat} {m : Bool} {v : Rat} (h : CellAt r i m v) (f : Rat → Rat) :
    CellAt (r.mapCells (Cell.sc f)) i m (f v) :=
  h.map (Cell.sc_vis f) (by cases m <;> rfl)

theorem CellAt.bin (g : Rat → Rat → Rat) (dt : DType) {a b : Arr} {i : Nat} {m1 m2 : Bool} {v1 v2 : Rat}
    (h1 : CellAt a i m1 v1) (h2 : CellAt b i m2 v2) : CellAt (Arr.zip (Cell.bin g) dt a b) i (m1 || m2) (g v1 v2) := by
  obtain ⟨c, hc, hc'⟩ := h1
  obtain ⟨d, hd, hd'⟩ := h2
  refine ⟨Cell.bin g c d, by rw [Arr.zip, List.getElem?_zipWith, hc, hd], (Cell.vis_eq_iff _ _ _).mp ?_⟩
  rw [Cell.bin_vis, (Cell.vis_eq_iff c m1 v1).mpr hc', (Cell.vis_eq_iff d m2 v2).mpr hd']
  cases m1 <;> cases m2 <;> rfl

theorem CellAt.imp {r : Arr} {i : Nat} {m : Bool} {v : Rat} (h : CellAt r i m v) {P : Rat → Prop} (hP : m = false → P v) :
    ∃ c, r.cells[i]? = some c ∧ c.mask = m ∧ (c.mask = false → P c.val) := by
  obtain ⟨c, hc, hm, hv⟩ := h
  exact ⟨c, hc, hm, fun h0 => hv h0 ▸ hP (hm ▸ h0)⟩

theorem CellAt.rel {r r' : Arr} {i : Nat} {m : Bool} {v v' : Rat} (h : CellAt r i m v) (h' : CellAt r' i m v')
    {R : Rat → Rat → Prop} (hR : m = false → R v v') :
    ∃ c c', r.cells[i]? = some c ∧ r'.cells[i]? = some c' ∧ c.mask = c'.mask ∧ (c.mask = false → R c.val c'.val) := by
  obtain ⟨c, hc, hm, hv⟩ := h
  obtain ⟨c', hc', hm', hv'⟩ := h'
  exact ⟨c, c', hc, hc', hm.trans hm'.symm, fun h0 => hv h0 ▸ hv' (hm'.trans (hm.symm.trans h0)) ▸ hR (hm ▸ h0)⟩

theorem CellAt.rel₃ {r1 r2 r3 : Arr} {i : Nat} {m : Bool} {v1 v2 v3 : Rat} (h1 : CellAt r1 i m v1) (h2 : CellAt r2 i m v2)
    (h3 : CellAt r3 i m v3) {R : Rat → Rat → Prop} (hR : m = false → R v1 v2 ∧ R v2 v3) :
    ∃ c1 c2 c3, r1.cells[i]? = some c1 ∧ r2.cells[i]? = some c2 ∧ r3.cells[i]? = some c3 ∧ c1.mask = c2.mask ∧ c2.mask = c3.mask ∧
      (c1.mask = false → R c1.val c2.val ∧ R c2.val c3.val) := by
  obtain ⟨c1, c2, e1, e2, m12, r12⟩ := h1.rel h2 fun hm => (hR hm).1
  obtain ⟨c2', c3, e2', e3, m23, r23⟩ := h2.rel h3 fun hm => (hR hm).2
  obtain rfl : c2 = c2' := Option.some.inj (e2.symm.trans e2')
  exact ⟨c1, c2, c3, e1, e2, e3, m12, m23, fun h0 => ⟨r12 h0, r23 (m12 ▸ h0)⟩⟩

theorem forall2_cellR_of_cellAt {r r' : Arr} {n : Nat} (hl : r.cells.length = n) (hl' : r'.cells.length = n)
    (h : ∀ i < n, ∃ m v, CellAt r i m v ∧ CellAt r' i m v) : List.Forall₂ CellR r.cells r'.cells := by
  rw [List.forall₂_iff_get]
  refine ⟨hl.trans hl'.symm, fun i h1 h2 => ?_⟩
  obtain ⟨m, v, ⟨c, hc, hm, hv⟩, ⟨c', hc', hm', hv'⟩⟩ := h i (hl ▸ h1)
  rw [List.getElem?_eq_getElem h1, Option.some.injEq] at hc
  rw [List.getElem?_eq_getElem h2, Option.some.injEq] at hc'
  simp only [List.get_eq_getElem, hc, hc']
  exact ⟨hm.trans hm'.symm, fun h0 => (hv h0).trans (hv' (hm'.trans (hm.symm.trans h0))).symm⟩

/-! ### the accumulation loops -/

theorem foldArr_ind {P : Arr → Prop} {f : Cell → Cell → Cell} {dt : DType} {a : Arr} {rest : List Arr} (h0 : P { a with dtype := dt })
    (step : ∀ acc, P acc → ∀ b ∈ rest, P (Arr.zip f dt acc b)) : P (foldArr f dt a rest) :=
  List.foldlRecOn rest _ h0 step

theorem foldArr_dtype (f : Cell → Cell → Cell) (dt : DType) (a : Arr) (rest : List Arr) : (foldArr f dt a rest).dtype = dt :=
  foldArr_ind (P := fun r => r.dtype = dt) rfl fun _ _ _ _ => rfl

theorem foldArr_shape (f : Cell → Cell → Cell) (dt : DType) (a : Arr) (rest : List Arr) : (foldArr f dt a rest).shape = a.shape :=
  foldArr_ind (P := fun r => r.shape = a.shape) rfl fun _ h _ _ => h

theorem foldArr_length (f : Cell → Cell → Cell) (dt : DType) (a : Arr) (t : List Arr) (n : Nat) (hn : ∀ x ∈ a :: t, x.cells.length = n) :
    (foldArr f dt a t).cells.length = n :=
  foldArr_ind (P := fun r => r.cells.length = n) (hn a List.mem_cons_self) fun acc h b hb => by
    simp [Arr.zip, h, hn b (List.mem_cons_of_mem _ hb)]

theorem column_vals_length (xs : List Arr) (i : Nat) : ((column xs i).map (·.val)).length = xs.length := by simp [column]

theorem column_vals_ne_nil (a : Arr) (t : List Arr) (i : Nat) : (column (a :: t) i).map (·.val) ≠ [] := by simp [column]

theorem foldl_zip_cellAt (g : Rat → Rat → Rat) (dt : DType) (i : Nat) :
    ∀ (rest : List Arr) (acc : Arr) (m : Bool) (v : Rat), CellAt acc i m v → (∀ x ∈ rest, i < x.cells.length) →
      CellAt (rest.foldl (fun acc a => Arr.zip (Cell.bin g) dt acc a) acc) i
        (m || (column rest i).any (·.mask)) (((column rest i).map (·.val)).foldl g v)
  | [], _, m, _, h, _ => (Bool.or_false m).symm ▸ h
  | b :: rest, _, _, _, h, hr => by
      have := foldl_zip_cellAt g dt i rest _ _ _ (h.bin g dt (cellAt_of_lt (hr b List.mem_cons_self)))
        (fun x hx => hr x (List.mem_cons_of_mem _ hx))
      -- up to the grouping of `||`, `this` is the goal with `column`, `any` and `foldl` computed on the cons
      rw [Bool.or_assoc] at this
      exact this

theorem foldArr_cellAt (g : Rat → Rat → Rat) (dt : DType) (a : Arr) (t : List Arr) (i : Nat) (hi : ∀ x ∈ a :: t, i < x.cells.length) :
    CellAt (foldArr (Cell.bin g) dt a t) i ((column (a :: t) i).any (·.mask)) (fold1 g ((column (a :: t) i).map (·.val))) :=
  foldl_zip_cellAt g dt i t { a with dtype := dt } _ _ (cellAt_of_lt (a := { a with dtype := dt }) (hi a List.mem_cons_self))
    (fun x hx => hi x (List.mem_cons_of_mem _ hx))

theorem sumL_eq_sum (l : List Rat) : sumL l = l.sum := List.sum_eq_foldl.symm

theorem fold1_add (l : List Rat) : fold1 (· + ·) l = l.sum := by
  cases l with
  | nil => rfl
  | cons x l => rw [List.sum_eq_foldl, List.foldl_cons, zero_add, fold1_cons]

theorem fold1_mul (l : List Rat) (h : l ≠ []) : fold1 (· * ·) l = l.prod := by
  obtain ⟨x, l, rfl⟩ := List.exists_cons_of_ne_nil h
  rw [List.prod_eq_foldl, List.foldl_cons, one_mul, fold1_cons]

theorem naryFold_ok {ref : LineRef} {g : Rat → Rat → Rat} {a : Arr} {t : List Arr} {r : Arr} (h : naryFold ref g (a :: t) = .ok r) :
    r = foldArr (Cell.bin g) (promoteAll (a :: t)) a t := by
  unfold naryFold at h
  obtain ⟨_, _, h⟩ := bind_ok h
  injection h with h; exact h.symm

theorem naryFold_cell (ref : LineRef) (g : Rat → Rat → Rat) (a : Arr) (t : List Arr) (r : Arr) (i : Nat)
    (h : naryFold ref g (a :: t) = .ok r) (hi : ∀ x ∈ a :: t, i < x.cells.length) :
    CellAt r i ((column (a :: t) i).any (·.mask)) (fold1 g ((column (a :: t) i).map (·.val))) := by
  rw [naryFold_ok h]; exact foldArr_cellAt g _ a t i hi

/-- a fold of additions followed by a division by the number of operands: the common core of `Mean` and `FuzzyUnion` -/
theorem meanArr_cell (a : Arr) (t : List Arr) (i : Nat) (hi : ∀ x ∈ a :: t, i < x.cells.length) :
    CellAt ((foldArr (Cell.bin (· + ·)) .float a t).mapCells (Cell.divSc ((a :: t).length : Nat))) i
      ((column (a :: t) i).any (·.mask)) (((column (a :: t) i).map (·.val)).sum / ((a :: t).length : Nat)) := by
  have := (foldArr_cellAt (· + ·) .float a t i hi).divSc ((a :: t).length : Nat)
  have hn : ((((a :: t).length : Nat) : Rat) == 0) = false := by
    rw [List.length_cons, Nat.cast_succ]; exact beq_false_of_ne (Nat.cast_add_one_ne_zero _)
  rwa [fold1_add, hn, Bool.or_false] at this

/-- an input times its weight, as the weighted loop adds it -/
def scaleArr (w : Num) (b : Arr) : Arr := b.mapCells (Cell.sc (· * w.val))

theorem foldl_weighted_cellAt (dt : DType) (i : Nat) :
    ∀ (as : List Arr) (wr : List Num) (acc : Arr) (m : Bool) (v : Rat), wr.length = as.length → CellAt acc i m v →
      (∀ x ∈ as, i < x.cells.length) →
      CellAt ((List.zip wr as).foldl (fun acc (wa : Num × Arr) => Arr.zip (Cell.bin (· + ·)) dt acc (scaleArr wa.1 wa.2)) acc) i
        (m || (column as i).any (·.mask)) (v + (List.zipWith (fun (w : Num) (c : Cell) => c.val * w.val) wr (column as i)).sum)
  | [], wr, _, _, _, _, h, _ => by simpa [column] using h
  | b :: as, [], _, _, _, hl, _, _ => by cases hl
  | b :: as, w :: wr, _, _, _, hl, h, hr => by
      have := foldl_weighted_cellAt dt i as wr _ _ _ (Nat.succ.inj hl)
        (h.bin (· + ·) dt ((cellAt_of_lt (hr b List.mem_cons_self)).sc (· * w.val))) (fun x hx => hr x (List.mem_cons_of_mem _ hx))
      rw [Bool.or_assoc, add_assoc] at this
      rw [column, List.map_cons, List.zipWith_cons_cons, List.sum_cons]
      exact this

theorem weightedAcc_cellAt (w : Num) (wr : List Num) (a : Arr) (as : List Arr) (dt : DType) (i : Nat) (hlen : wr.length = as.length)
    (hi : ∀ x ∈ a :: as, i < x.cells.length) :
    CellAt (weightedAcc (w :: wr) (a :: as) dt) i ((column (a :: as) i).any (·.mask))
      (List.zipWith (fun (w : Num) (c : Cell) => c.val * w.val) (w :: wr) (column (a :: as) i)).sum := by
  have h0 : CellAt (scaleArr w { a with dtype := dt }) i _ _ :=
    (cellAt_of_lt (a := { a with dtype := dt }) (hi a List.mem_cons_self)).sc (· * w.val)
  exact foldl_weighted_cellAt dt i as wr _ _ _ hlen h0 (fun x hx => hi x (List.mem_cons_of_mem _ hx))

/-! ### the sorted column: `sortRat l` is the ascending permutation of `l`, which `stackMap` hands to its cell function -/

theorem sortRat_perm_self (l : List Rat) : (sortRat l).Perm l := List.mergeSort_perm l _

theorem sortRat_sorted (l : List Rat) : (sortRat l).Pairwise (· ≤ ·) := List.pairwise_mergeSort' (· ≤ ·) l

theorem sortRat_mem {l : List Rat} {x : Rat} : x ∈ sortRat l ↔ x ∈ l := (sortRat_perm_self l).mem_iff

theorem sortRat_ne_nil {l : List Rat} (h : l ≠ []) : sortRat l ≠ [] := fun e => h (List.perm_nil.mp (e ▸ (sortRat_perm_self l).symm))

/-- a list has one ascending permutation: sorting forgets the order of its argument -/
theorem sortRat_perm {l l' : List Rat} (h : l.Perm l') : sortRat l = sortRat l' :=
  sort_eq_of_perm (fun _ _ => le_antisymm) sortRat_perm_self sortRat_sorted h

theorem stackMap_cellAt (a : Arr) (t : List Arr) (f : List Rat → Cell) (hf : ∀ l, (f l).mask = false) (i : Nat) (hi : i < a.cells.length) :
    CellAt (stackMap (a :: t) f) i ((column (a :: t) i).any (·.mask)) (f (sortRat ((column (a :: t) i).map (·.val)))).val := by
  refine ⟨stackCell (a :: t) f i, by simp [stackMap, hi], ?_, ?_⟩ <;> unfold stackCell <;>
    cases (column (a :: t) i).any (·.mask) <;> simp [hf]

/-! ### weighted accumulation as a fold over the scaled inputs -/

theorem weightedAcc_eq_foldArr (w : Num) (wr : List Num) (a : Arr) (as : List Arr) (dt : DType) :
    weightedAcc (w :: wr) (a :: as) dt = foldArr (Cell.bin (· + ·)) dt (scaleArr w a) (List.zipWith scaleArr wr as) := by
  -- a loop over (weight, input) pairs that scales as it goes is the loop over the scaled inputs
  rw [foldArr, ← List.map_uncurry_zip_eq_zipWith, List.foldl_map]
  rfl

/-! ### minimum and maximum as folds -/

theorem fold1_mem {g : Rat → Rat → Rat} (hg : ∀ a b, g a b = a ∨ g a b = b) {l : List Rat} (h : l ≠ []) : fold1 g l ∈ l := by
  obtain ⟨x, l, rfl⟩ := List.exists_cons_of_ne_nil h
  -- every round returns the accumulator or the new value
  refine List.foldlRecOn l g List.mem_cons_self fun b hb a ha => ?_
  rcases hg b a with e | e <;> rw [e]
  exacts [hb, List.mem_cons_of_mem _ ha]

theorem fold1_min_mem {l : List Rat} (h : l ≠ []) : fold1 ratMin l ∈ l := fold1_mem ratMin_choice h
theorem fold1_max_mem {l : List Rat} (h : l ≠ []) : fold1 ratMax l ∈ l := fold1_mem ratMax_choice h

/-! `minL (x :: xs)` unfolds to `some (fold1 ratMin (x :: xs))` (`maxL` likewise): the `rfl` below -/

theorem fold1_min_le : ∀ (l : List Rat), ∀ y ∈ l, fold1 ratMin l ≤ y
  | [] => fun _ h => nomatch h
  | x :: xs => (minL_eq_some_iff (l := x :: xs).mp rfl).2

theorem fold1_max_ge : ∀ (l : List Rat), ∀ y ∈ l, y ≤ fold1 ratMax l
  | [] => fun _ h => nomatch h
  | x :: xs => (maxL_eq_some_iff (l := x :: xs).mp rfl).2

/-! ### permutation invariance -/

theorem fold1_perm (g : Rat → Rat → Rat) (hc : ∀ a b, g a b = g b a) (ha : ∀ a b c, g (g a b) c = g a (g b c))
    {l l' : List Rat} (h : l.Perm l') : fold1 g l = fold1 g l' := by
  have rc : RightCommutative g := ⟨fun a b c => by rw [ha, hc b c, ← ha]⟩
  induction h with
  | nil => rfl
  | cons x p _ => exact List.Perm.foldl_eq p x
  | swap x y l => simp only [fold1, List.foldl_cons, hc y x]
  | trans _ _ ih1 ih2 => exact ih1.trans ih2

theorem fold1_hom {g g' : Rat → Rat → Rat} (φ : Rat → Rat) (hφ : ∀ a b, φ (g a b) = g' (φ a) (φ b)) (x : Rat) (l : List Rat) :
    φ (fold1 g (x :: l)) = fold1 g' ((x :: l).map φ) := by
  rw [List.map_cons, fold1_cons, fold1_cons, List.foldl_map]
  exact (List.foldl_hom φ (H := fun a b => (hφ a b).symm)).symm

end MPilot
