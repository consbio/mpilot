/-
Lemmas/List — facts about lists that mention nothing of the model: members under `List.Forall₂`, permutations and sorting, a list as
the values at its positions (`filterMap_range`), `List.span`.
-/
import Mathlib.Data.List.Forall2
import Mathlib.Data.List.TakeDrop
import Mathlib.Data.List.TakeWhile

namespace MPilot

/-! ### `List.Forall₂` -/

theorem forall₂_map_eq {α β : Type} {R : α → α → Prop} {f : α → β} (hf : ∀ a b, R a b → f a = f b) {l l' : List α}
    (h : List.Forall₂ R l l') : l.map f = l'.map f := by
  rw [← List.forall₂_eq_eq_eq]; exact List.rel_map hf h

theorem forall₂_mem_left {α β : Type} {R : α → β → Prop} {l : List α} {l' : List β} (h : List.Forall₂ R l l') {a : α} (ha : a ∈ l) :
    ∃ b ∈ l', R a b := by
  induction h with
  | nil => cases ha
  | cons hr _ ih =>
    rcases List.mem_cons.mp ha with rfl | ha
    · exact ⟨_, List.mem_cons_self .., hr⟩
    · obtain ⟨b, hb, hab⟩ := ih ha
      exact ⟨b, List.mem_cons_of_mem _ hb, hab⟩

theorem forall₂_mem_right {α β : Type} {R : α → β → Prop} {l : List α} {l' : List β} (h : List.Forall₂ R l l') {b : β} (hb : b ∈ l') :
    ∃ a ∈ l, R a b := by
  obtain ⟨a, ha, hab⟩ := forall₂_mem_left h.flip hb
  exact ⟨a, ha, hab⟩

/-! ### permutations and positions -/

theorem exists_cons_cons_of_perm {α : Type} {xs xs' : List α} (h : xs.Perm xs') (hne : xs ≠ []) : ∃ a t a' t', xs = a :: t ∧ xs' = a' :: t' := by
  cases xs with
  | nil => exact absurd rfl hne
  | cons a t =>
    cases xs' with
    | nil => exact absurd (List.perm_nil.mp h) (by simp)
    | cons a' t' => exact ⟨a, t, a', t', rfl, rfl⟩

theorem perm_of_zip_perm {α β : Type} {ws ws' : List α} {xs xs' : List β} (hl : ws.length = xs.length) (hl' : ws'.length = xs'.length)
    (h : (ws.zip xs).Perm (ws'.zip xs')) : ws.Perm ws' ∧ xs.Perm xs' := by
  constructor
  · have := h.map Prod.fst
    rwa [List.map_fst_zip hl.le, List.map_fst_zip hl'.le] at this
  · have := h.map Prod.snd
    rwa [List.map_snd_zip hl.ge, List.map_snd_zip hl'.ge] at this

theorem filterMap_range {α : Type} (l : List α) : (List.range l.length).filterMap (fun i => l[i]?) = l := by
  induction l with
  | nil => rfl
  | cons x l ih =>
    rw [List.length_cons, List.range_succ_eq_map, List.filterMap_cons]
    simp only [List.getElem?_cons_zero, List.filterMap_map]
    congr 1

/-- a list has one sorted permutation: a function that sorts forgets the order of its argument -/
theorem sort_eq_of_perm {α : Type} {le : α → α → Prop} {sort : List α → List α} (hanti : ∀ a b, le a b → le b a → a = b)
    (hperm : ∀ l, (sort l).Perm l) (hsorted : ∀ l, (sort l).Pairwise le) {l l' : List α} (h : l.Perm l') : sort l = sort l' :=
  List.Perm.eq_of_pairwise (fun a b _ _ => hanti a b) (hsorted l) (hsorted l') ((hperm l).trans (h.trans (hperm l').symm))

/-! ### `List.span`: what it returns, and what it returns on a run followed by a stop -/

theorem span_spec {α : Type} (p : α → Bool) {cs w rest : List α} (h : cs.span p = (w, rest)) :
    cs = w ++ rest ∧ (∀ x ∈ w, p x = true) ∧ ∀ d r, rest = d :: r → p d = false := by
  rw [List.span_eq_takeWhile_dropWhile] at h
  cases h
  refine ⟨List.takeWhile_append_dropWhile.symm, fun x hx => List.mem_takeWhile_imp hx, fun d r hr => ?_⟩
  have := List.head_dropWhile_not p (l := cs) (by rw [hr]; simp)
  simpa [hr] using this

theorem span_cons_pos {α : Type} (p : α → Bool) {c : α} (r : List α) (h : p c = true) : 1 ≤ ((c :: r).span p).1.length := by
  rw [List.span_eq_takeWhile_dropWhile, List.takeWhile_cons_of_pos h]; simp

theorem span_append_stop {α : Type} (p : α → Bool) (l r : List α) (hl : ∀ c ∈ l, p c = true) (hr : ∀ c r', r = c :: r' → p c = false) :
    (l ++ r).span p = (l, r) := by
  rw [List.span_eq_takeWhile_dropWhile, List.takeWhile_append_of_pos hl, List.dropWhile_append_of_pos hl]
  cases r with
  | nil => simp
  | cons c r' => simp [hr c r' rfl]

end MPilot
