/-
Lemmas/Stats — the whole-array statistics in the terms a proof wants.  `minL` / `maxL` see a list only as the set of its values (`minL_congr`,
from their characterisation `minL_eq_some_iff` in Lemmas/Order).  All statistics together (`stats`) are the same for a list and for any
`Cover` of it - the list rearranged, repeated `k` times, or both: what C05 needs for rearranged fields and C05Tile for repeated ones.
-/
import MPilot.Lemmas.Fold
import Mathlib.Algebra.Order.BigOperators.Group.List

namespace MPilot

theorem hasDup_eq_false {l : List Rat} : hasDup l = false ↔ l.Nodup := by
  induction l with
  | nil => simp [hasDup]
  | cons a t ih => simp [hasDup, ih]

/-- a bound of every value of a non-empty column bounds their mean: Minimum ≤ Mean ≤ Maximum, And ≤ Union ≤ Or, and the mean of fuzzy values is
a fuzzy value are all this -/
theorem mean_between (l : List Rat) (hne : l ≠ []) (lo hi : Rat) (hlo : ∀ y ∈ l, lo ≤ y) (hhi : ∀ y ∈ l, y ≤ hi) :
    lo ≤ l.sum / (l.length : Rat) ∧ l.sum / (l.length : Rat) ≤ hi := by
  have hpos : (0 : Rat) < (l.length : Rat) := Nat.cast_pos.mpr (List.length_pos_of_ne_nil hne)
  rw [le_div_iff₀ hpos, div_le_iff₀ hpos, mul_comm lo, mul_comm hi, ← nsmul_eq_mul, ← nsmul_eq_mul]
  exact ⟨List.card_nsmul_le_sum l lo hlo, List.sum_le_card_nsmul l hi hhi⟩

theorem minL_congr {l l' : List Rat} (h : ∀ x, x ∈ l ↔ x ∈ l') : minL l = minL l' :=
  Option.ext fun m => by simp only [minL_eq_some_iff, h]

theorem maxL_congr {l l' : List Rat} (h : ∀ x, x ∈ l ↔ x ∈ l') : maxL l = maxL l' :=
  Option.ext fun m => by simp only [maxL_eq_some_iff, h]

/-- everything a command reads off the present values of its input as a whole.  `mtm` is a function: the control points of the mean-to-mid
commands depend on the command's parameters (`IgnoreZeros`, the normal values) as well as on the data -/
structure Stats where
  min : Option Rat
  max : Option Rat
  mean : Option Rat
  var : Option Rat
  mtm : Bool → List Num → Except Err (List Rat × List Rat)

def stats (l : List Rat) : Stats := ⟨minL l, maxL l, meanL l, varL l, mtmPoints l⟩

/-- `l'` holds every value of `l` exactly `k` times as often: `l` rearranged (`k = 1`), repeated `k` times, or both -/
def Cover (k : Nat) (l l' : List Rat) : Prop := l'.Perm (List.replicate k l).flatten

variable {k : Nat} {l l' : List Rat}

namespace Cover

theorem of_perm (h : l'.Perm l) : Cover 1 l l' := by simpa [Cover] using h

theorem map (h : Cover k l l') (f : Rat → Rat) : Cover k (l.map f) (l'.map f) := by
  unfold Cover; rw [← List.map_replicate, ← List.map_flatten]; exact List.Perm.map f h

theorem filter (h : Cover k l l') (p : Rat → Bool) : Cover k (l.filter p) (l'.filter p) := by
  unfold Cover; rw [← List.map_replicate, ← List.filter_flatten]; exact List.Perm.filter p h

theorem mem (h : Cover k l l') (hk : 0 < k) (x : Rat) : x ∈ l' ↔ x ∈ l := by
  rw [List.Perm.mem_iff h]; simp [List.mem_flatten, List.mem_replicate, hk.ne']

theorem sum (h : Cover k l l') : l'.sum = k * l.sum := by
  rw [List.Perm.sum_eq h, List.sum_flatten, List.map_replicate, List.sum_replicate, nsmul_eq_mul]

theorem length (h : Cover k l l') : l'.length = k * l.length := by
  rw [List.Perm.length_eq h, List.length_flatten, List.map_replicate, List.sum_replicate]; rfl

end Cover

theorem minL_cover (h : Cover k l l') (hk : 0 < k) : minL l' = minL l := minL_congr (h.mem hk)

theorem maxL_cover (h : Cover k l l') (hk : 0 < k) : maxL l' = maxL l := maxL_congr (h.mem hk)

/-- sum and length both grow by the factor `k` -/
theorem meanL_cover (h : Cover k l l') (hk : 0 < k) : meanL l' = meanL l := by
  have he : l'.isEmpty = l.isEmpty := by
    rw [Bool.eq_iff_iff]; simp only [List.isEmpty_iff, List.eq_nil_iff_forall_not_mem, h.mem hk]
  unfold meanL
  rw [he, sumL_eq_sum, sumL_eq_sum, h.sum, h.length, Nat.cast_mul, mul_div_mul_left _ _ (Nat.cast_ne_zero.mpr hk.ne')]

theorem varL_cover (h : Cover k l l') (hk : 0 < k) : varL l' = varL l := by
  unfold varL
  rw [meanL_cover h hk]
  cases meanL l with
  | none => rfl
  | some m => exact meanL_cover (h.map _) hk

theorem mtmStats_cover (h : Cover k l l') (hk : 0 < k) (iz : Bool) : mtmStats l' iz = mtmStats l iz := by
  unfold mtmStats
  rw [minL_cover h hk, maxL_cover h hk]
  have hvs : Cover k (if iz = true then l.filter (· != 0) else l) (if iz = true then l'.filter (· != 0) else l') := by
    cases iz <;> [exact h; exact h.filter _]
  generalize (if iz = true then l.filter (· != 0) else l) = vs at hvs
  generalize (if iz = true then l'.filter (· != 0) else l') = vs' at hvs
  cases minL l <;> cases maxL l <;> dsimp only
  rw [meanL_cover hvs hk]
  cases meanL vs with
  | none => rfl
  | some mean =>
    dsimp only
    rw [meanL_cover (hvs.filter _) hk, meanL_cover (hvs.filter _) hk]

theorem stats_cover (h : Cover k l l') (hk : 0 < k) : stats l' = stats l := by
  simp only [stats, minL_cover h hk, maxL_cover h hk, meanL_cover h hk, varL_cover h hk, Stats.mk.injEq, true_and]
  funext iz nv
  rw [mtmPoints, mtmStats_cover h hk, ← mtmPoints]

end MPilot
